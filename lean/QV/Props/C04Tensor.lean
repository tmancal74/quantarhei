import QV.Props.C07Basis

/-!
# C04 — a relaxation tensor is restored by the back transformation
Leaving a basis context applies `transform(S1, inv=SS)` to what `transform(SS, inv=S1)` produced on entering.  For every
pair with `SS · S1 = 1` the two passes of the code, applied there and back, return every tensor unchanged (no
orthogonality needed): the four-index object is restored exactly as operators are.
-/
namespace QV.Prop
open QV.C01

variable {α : Type} [CommRing α] {n : Nat}

/-- first pass: the sandwich on the index pair `(a, b)` -/
def pass1 (S1 SS : Mat α n) (R : Tens α n) : Tens α n := fun a b c d => sandwich S1 SS (fun a b => R a b c d) a b
/-- second pass: the sandwich on the index pair `(c, d)` -/
def pass2 (S1 SS : Mat α n) (R : Tens α n) : Tens α n := fun a b c d => sandwich S1 SS (fun c d => R a b c d) c d

theorem transformTwoPass_eq (S1 SS : Mat α n) (R : Tens α n) :
    transformTwoPass S1 SS R = pass2 S1 SS (pass1 S1 SS R) := by
  funext a b c d
  simp only [transformTwoPass, pass1, pass2, sandwich, matMul, sumFin_eq_sum, Finset.mul_sum, Finset.sum_mul, mul_assoc]

/-- the two passes act on different index pairs and commute -/
theorem pass1_pass2_comm (A B C D : Mat α n) (R : Tens α n) :
    pass1 A B (pass2 C D R) = pass2 C D (pass1 A B R) := by
  funext a b c d
  simp only [pass1, pass2, sandwich, matMul, sumFin_eq_sum, Finset.mul_sum, Finset.sum_mul]
  exact sum4_comm_congr fun _ _ _ _ => by ring

theorem sandwich_back (S1 SS A : Mat α n) (h3 : ∀ x y, ∑ a, SS x a * S1 a y = if x = y then 1 else 0) :
    sandwich SS S1 (sandwich S1 SS A) = A := by
  apply Matrix.of.injective
  rw [of_sandwich, of_sandwich, Matrix.mul_assoc, Matrix.mul_assoc, mul_eq_one_of_sum h3, Matrix.mul_one,
    ← Matrix.mul_assoc, mul_eq_one_of_sum h3, Matrix.one_mul]

theorem pass1_back (S1 SS : Mat α n) (R : Tens α n) (h3 : ∀ x y, ∑ a, SS x a * S1 a y = if x = y then 1 else 0) :
    pass1 SS S1 (pass1 S1 SS R) = R := by
  funext a b c d
  simp only [pass1, sandwich_back S1 SS _ h3]

theorem pass2_back (S1 SS : Mat α n) (R : Tens α n) (h3 : ∀ x y, ∑ a, SS x a * S1 a y = if x = y then 1 else 0) :
    pass2 SS S1 (pass2 S1 SS R) = R := by
  funext a b c d
  simp only [pass2, sandwich_back S1 SS _ h3]

/-- **entering and leaving a basis context restores every tensor** -/
theorem transform_back (S1 SS : Mat α n) (R : Tens α n)
    (h3 : ∀ x y, ∑ a, SS x a * S1 a y = if x = y then 1 else 0) :
    transformTwoPass SS S1 (transformTwoPass S1 SS R) = R := by
  rw [transformTwoPass_eq, transformTwoPass_eq, pass1_pass2_comm, pass1_back S1 SS R h3, pass2_back S1 SS R h3]

theorem sandwich_comp (S1 SS S1' SS' A : Mat α n) :
    sandwich S1' SS' (sandwich S1 SS A) = sandwich (matMul S1' S1) (matMul SS SS') A := by
  apply Matrix.of.injective
  simp only [of_sandwich, of_matMul, Matrix.mul_assoc]

/-- **nested basis contexts compose**: transforming with `(S1, SS)` and then with `(S1', SS')` is the transformation
with the products - the group-action law that the C04 invariant proof assumes of every managed object, here for
four-index tensors (no hypothesis on the matrices) -/
theorem transform_comp (S1 SS S1' SS' : Mat α n) (R : Tens α n) :
    transformTwoPass S1' SS' (transformTwoPass S1 SS R) = transformTwoPass (matMul S1' S1) (matMul SS SS') R := by
  rw [transformTwoPass_eq, transformTwoPass_eq, transformTwoPass_eq, pass1_pass2_comm]
  funext a b c d
  simp only [pass1, pass2, sandwich_comp]

end QV.Prop
