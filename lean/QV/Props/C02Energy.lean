import QV.Props.C02

/-!
# C02 — without relaxation the energy (and every constant of motion) is conserved exactly
For Hamiltonian-only propagation the truncated expansion conserves `tr(F ρ)` *exactly* - not only within the truncation
bound - for every matrix `F` that commutes with the Hamiltonian: the energy (`F = H`), its powers, the populations of the
Hamiltonian's eigenstates.
-/
namespace QV.Prop
open QV.C01 Finset

variable {n : Nat} {α : Type} [Field α]

theorem matMul_as_matrix (A B : Mat α n) :
    matMul A B = ((Matrix.of A) * (Matrix.of B) : Matrix (Fin n) (Fin n) α) :=
  of_matMul A B

theorem trace_as_matrix (A : Mat α n) : trace A = Matrix.trace (Matrix.of A) :=
  trace_eq_matrix_trace A

theorem trace_mul_comm_zero (F H ρ : Mat α n) (hFH : matMul F H = matMul H F) :
    trace (matMul F (comm H ρ)) = 0 := by
  have hFH' : Matrix.of F * Matrix.of H = Matrix.of H * Matrix.of F := by rw [← of_matMul, ← of_matMul, hFH]
  -- `tr(F[H,ρ]) = tr(HFρ) − tr(FρH)` as `FH = HF`; the two agree cyclically
  rw [trace_eq_matrix_trace, of_matMul, of_comm, mul_sub, Matrix.trace_sub, ← mul_assoc, ← mul_assoc, hFH',
    Matrix.trace_mul_cycle (Matrix.of F), sub_self]

/-- **constants of motion are conserved exactly** by the closed-system stepping -/
theorem rdm_constant_of_motion (ii : α) (H F : Mat α n) (hFH : matMul F H = matMul H F) (dt : α) (L Nref nt : Nat)
    (ρ0 : MatD α n n) :
    ∀ ρ ∈ rdmPropagate (genH ii H) dt L Nref nt ρ0, trace (matMul F ρ.fn) = trace (matMul F ρ0.fn) := by
  apply taylorTrajectory_conserved (genH ii H) madd _ (fun x => trace (matMul F x.fn))
  · intro a b
    simp only [madd_fn, trace_eq, matMul_eq_mul, mul_add, Finset.sum_add_distrib]
  · intro c ρ
    -- `tr(F (−i c [H,ρ])) = −i c · tr(F [H,ρ])`
    have h := trace_mul_comm_zero F H ρ.fn hFH
    simp only [trace_eq, matMul_eq_mul] at h ⊢
    simp only [genH_fn, mul_neg, mul_left_comm (F _ _), sum_neg_distrib, ← mul_sum, h, mul_zero, neg_zero]

/-- **the energy `tr(H ρ)` is conserved exactly** -/
theorem rdm_energy_conserved (ii : α) (H : Mat α n) (dt : α) (L Nref nt : Nat) (ρ0 : MatD α n n) :
    ∀ ρ ∈ rdmPropagate (genH ii H) dt L Nref nt ρ0, trace (matMul H ρ.fn) = trace (matMul H ρ0.fn) :=
  rdm_constant_of_motion ii H H rfl dt L Nref nt ρ0

end QV.Prop
