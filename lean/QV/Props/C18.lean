import QV.Model.C18
import QV.Props.C04

/-!
# C18 — saved objects and exported data load back to the same physical values
`_data_with_axis` / `_extract_data_with_axis` are inverse on `(N,)` and `(N,M≥2)` arrays (`(N,1)` loses its shape); the
dispatch tables of `save_data` / `load_data` pair every writer with its reader; a basis-managed object pickled under any
stack of contexts and loaded under any other reads as the same physical object, on the model and invariant of C04.
The flag `portablePickle` of `QV.Gen.C18` enters as the hypothesis `hp`; that the source has the shape is
`pickle_is_portable`.
-/
namespace QV.C18
open QV.Gen.C18

section pack
variable {K : Type} {N : Nat}

def Arr.cols : Arr K N → Option Nat
  | .r1 _ => none
  | .r2 M _ => some M

/-- **a 1-D array exported with its axis comes back as the same axis and the same 1-D array** -/
theorem extract_pack_r1 (axis d : Fin N → K) :
    extract 2 (pack1 axis d) = some (axis, .r1 d) :=
  rfl

/-- **an `(N,M)` array with `M ≥ 2` exported with its axis comes back as the same axis and the same
`(N,M)` array** (same shape, same values in the same order) -/
theorem extract_pack_r2 (axis : Fin N → K) (M : Nat) (hM : 2 ≤ M) (d : Fin N → Fin M → K) :
    ∃ r, extract (M + 1) (pack2 M axis d) = some r ∧ r.1 = axis ∧ r.2.cols = some M ∧
      r.2.flat = (Arr.r2 M d).flat := by
  rw [extract, dif_neg (by omega), dif_pos (by omega)]
  exact ⟨_, rfl, rfl, rfl, rfl⟩

/-- the recorded shape loss: an `(N,1)` array exported with its axis makes a two-column file, which is
read back as a 1-D array - same values, other shape -/
theorem extract_pack_N1_witness (axis : Fin N → K) (d : Fin N → Fin 1 → K) :
    ∃ r, extract 2 (pack2 1 axis d) = some r ∧ r.1 = axis ∧ r.2.cols = none ∧
      r.2.flat = (Arr.r2 1 d).flat :=
  ⟨_, rfl, rfl, rfl, List.map_eq_flatMap⟩

theorem extract_refuses_narrow (C : Nat) (hC : C < 2) (f : Fin N → Fin C → K) : extract C f = none := by
  rw [extract, dif_neg (by omega), dif_neg (by omega)]

end pack

/-- `save_data` and `load_data` accept the same extensions, and for each the reader is the inverse of the
writer; every writer packs and every reader unpacks the axis -/
theorem dispatch_consistent : dispatchConsistent = true := by decide +kernel
/-- a two-column file is read as axis + 1-D data by the reader (the rule `extract` models) -/
theorem two_columns_rank1 : twoColumnsMeansRank1 = true := by decide
/-- `BasisManaged.__getstate__` labels the pickled state with the outermost basis and undoes the transformations of
the open contexts, innermost first, by their inverses (the shape `saveObj` models) -/
theorem pickle_is_portable : portablePickle = true := by decide

section load
open QV.C04
variable {G R : Type} [Group G] {act : G → R → R}

/-- **an object saved while it is represented in the outermost basis (never read inside a context, or
saved after all contexts were left) can be loaded under ANY manager state**: it satisfies the invariant
of the basis bookkeeping (C04) for every stack of open contexts, so every later read presents the same
physical object in whatever basis is current -/
theorem load_level0_any_context (levels' : List G) (o : Obj R) (orig : R) (h : ObjInv act ([] : List G) o orig)
    (ha : IsAction act) : ObjInv act levels' o orig := by
  obtain ⟨hrep, hb, hregs⟩ := restored_at_depth_zero ha o orig h
  exact .of_outermost ha h.unprot hb hregs hrep levels'

theorem load_level0_read (s' : BState G R) (o : Obj R) (orig : R) (h : ObjInv act ([] : List G) o orig)
    (ha : IsAction act) : (toCurrent (grpAlg act) s' o).rep = act (Gfull s'.levels) orig :=
  (toCurrent_inv ha s' o orig (load_level0_any_context s'.levels o orig h ha)).2.2

/-- undoing `Gfull l` by the inverses, innermost first, gives back `orig` -/
theorem undo_spec (ha : IsAction act) : ∀ (l : List G) (orig : R),
    l.foldl (fun r S => act S⁻¹ r) (act (Gfull l) orig) = orig := by
  intro l orig
  induction l with
  | nil => simp [Gfull, ha.one]
  | cons S l ih => rwa [List.foldl_cons, act_inv_Gfull_cons ha]

/-- **saving under ANY open contexts stores the object as it looks outside all of them**: whatever basis the
object was in when it was pickled (also after reads inside nested contexts), the stored state satisfies the
bookkeeping invariant of the empty stack -/
theorem save_any_context (ha : IsAction act) (hp : portablePickle = true) (levels : List G) (o : Obj R) (orig : R)
    (h : ObjInv act levels o orig) : ObjInv act ([] : List G) (saveObj (grpAlg act) levels o) orig := by
  unfold saveObj
  split
  -- `saveObj` folds over `levels.drop (levels.length - o.basis)`, and `Gto levels o.basis` in `h.rep` is by definition
  -- `Gfull` of that very list: this is `undo_spec`
  · exact .of_outermost ha rfl rfl rfl (h.rep ▸ undo_spec ha _ orig) []
  · next hc =>
    have hb : o.basis = 0 := by simpa [hp, h.unprot, h.le] using hc
    exact .of_outermost (o := { o with regs := [] }) ha h.unprot hb rfl (by rw [h.rep, hb, Gto_zero, ha.one]) []

/-- **save anywhere, load anywhere**: an object saved under any stack of basis contexts and loaded under any
other presents, on every later read, the same physical object in the basis that is then current -/
theorem save_load_any_contexts (ha : IsAction act) (hp : portablePickle = true) (levels : List G) (s' : BState G R)
    (o : Obj R) (orig : R) (h : ObjInv act levels o orig) :
    (toCurrent (grpAlg act) s' (saveObj (grpAlg act) levels o)).rep = act (Gfull s'.levels) orig :=
  load_level0_read s' _ orig (save_any_context ha hp levels o orig h) ha

/-- what the portable state repairs: an object pickled with its basis id `k > 0` is not readable once loaded
where fewer contexts are open -/
theorem saved_inside_unreadable_outside (k : Nat) (hk : 0 < k) : readable k 0 = false :=
  decide_eq_false (Nat.not_le.2 hk)

end load
end QV.C18
