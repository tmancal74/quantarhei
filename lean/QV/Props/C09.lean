import QV.Model.C09Cfg
import Mathlib.Algebra.Order.Ring.Rat

/-!
# C09 — bath correlation functions add linearly and carry consistent parameters
The switches of the model (`Cfg`) are re-extracted from
`quantarhei/qm/corfunctions/{correlationfunctions,spectraldensities}.py` on every run.
-/
namespace QV.C09
open QV.Gen.C09

/-- a configuration under which components are built from their own parameters, accumulated, and
rebuilt in internal units, with refusals that leave the operands alone -/
structure Good (cfg : Cfg) : Prop where
  own : ∀ k, cfg.own k = true
  accData : ∀ k, cfg.accData k = true
  accLamb : ∀ k, cfg.accLamb k = true
  checkFirst : cfg.checkFirst = true
  rebuildInt : cfg.rebuildInt = true

theorem getD_all (l : List Bool) (h : l.all id = true) (k : Nat) : l.getD k true = true := by
  rw [List.getD_eq_getElem?_getD]
  cases hk : l[k]? with
  | none => rfl
  | some b => exact List.all_eq_true.mp h b (List.mem_of_getElem? hk)

theorem cf_tables_good : cfOwn.all id = true ∧ cfAccData.all id = true ∧ cfAccLamb.all id = true ∧
    cfCheckFirst = true ∧ cfRebuildInt = true ∧ cfCheckTemp = true := by decide
theorem sd_tables_good : sdOwn.all id = true ∧ sdAccData.all id = true ∧ sdAccLamb.all id = true ∧
    sdRebuildInt = true := by decide

theorem cfCfg_good : Good cfCfg :=
  ⟨getD_all _ cf_tables_good.1, getD_all _ cf_tables_good.2.1, getD_all _ cf_tables_good.2.2.1,
   cf_tables_good.2.2.2.1, cf_tables_good.2.2.2.2.1⟩
theorem sdCfg_good : Good sdCfg :=
  ⟨getD_all _ sd_tables_good.1, getD_all _ sd_tables_good.2.1, getD_all _ sd_tables_good.2.2.1,
   rfl, sd_tables_good.2.2.2⟩
theorem cfCfg_checks : cfCfg.checkTemp = true := cf_tables_good.2.2.2.2.2

section
variable {V : Type} [AddCommMonoid V]

/-- `x` is the largest of 0 and the components' cutoff contributions -/
def IsCut (x : Rat) (ps : List Comp) : Prop :=
  0 ≤ x ∧ (∀ c ∈ ps, c.cut ≤ x) ∧ (x = 0 ∨ ∃ c ∈ ps, c.cut = x)

/-- the object is what its parameter list says -/
structure Consistent (cfg : Cfg) (gD gL : Comp → V) (f : Fn V) : Prop where
  data : f.data = total gD f.params
  lamb : f.lamb = total gL f.params
  conv : ∀ c ∈ f.params, c.conv = 0
  temp : cfg.checkTemp = true → ∀ c ∈ f.params, f.temp = some c.temp
  tempNil : cfg.checkTemp = true → f.params = [] → f.temp = none
  cut : IsCut f.cut f.params

theorem total_append (g : Comp → V) (l₁ l₂ : List Comp) : total g (l₁ ++ l₂) = total g l₁ + total g l₂ := by
  induction l₁ with
  | nil => simp [total]
  | cons c cs ih => simp [total, ih, add_assoc]

theorem rmax_eq (a b : Rat) : rmax a b = max a b := (max_def_lt a b).symm

theorem isCut_nil : IsCut 0 [] := ⟨le_refl _, by simp, Or.inl rfl⟩

theorem isCut_append {x y : Rat} {l₁ l₂ : List Comp} (h₁ : IsCut x l₁) (h₂ : IsCut y l₂) :
    IsCut (rmax x y) (l₁ ++ l₂) := by
  -- the larger cutoff bounds both halves; it is attained in the half it comes from, unless both are 0
  grind [IsCut, rmax]

theorem isCut_singleton {c : Comp} (hc : 0 ≤ c.cut) : IsCut c.cut [c] :=
  ⟨hc, by simp, Or.inr ⟨c, by simp, rfl⟩⟩

theorem isCut_snoc {x : Rat} {l : List Comp} (h : IsCut x l) (c : Comp) (hc : 0 ≤ c.cut) :
    IsCut (rmax x c.cut) (l ++ [c]) :=
  isCut_append h (isCut_singleton hc)

/-- state of the object under construction after the makers of a prefix `done` of the list ran -/
structure Partial (cfg : Cfg) (gD gL : Comp → V) (done : List Comp) (f : Fn V) : Prop where
  data : f.data = total gD done
  lamb : f.lamb = total gL done
  temp : cfg.checkTemp = true → ∀ c ∈ done, f.temp = some c.temp
  tempNil : cfg.checkTemp = true → done = [] → f.temp = none
  cut : IsCut f.cut done

theorem makeComp_eq_ok {cfg : Cfg} (hg : Good cfg) {gD gL : Comp → V} {last : Comp} {f f' : Fn V} {c : Comp} :
    makeComp cfg gD gL last f c = .ok f' ↔
      c.valued = false ∧ (cfg.checkTemp = true → f.temp = none ∨ f.temp = some c.temp) ∧
      f' = { f with data := f.data + gD c, lamb := f.lamb + gL c, temp := some c.temp, cut := rmax f.cut c.cut } := by
  -- under `Good`, `src = c` and both assignments accumulate; in the `some t` branch `temp` already is `some c.temp`
  grind [makeComp, Good]

theorem makeComp_ok {cfg : Cfg} (hg : Good cfg) (gD gL : Comp → V) (last : Comp) {done : List Comp}
    {f f' : Fn V} {c : Comp} (hc : 0 ≤ c.cut) (hp : Partial cfg gD gL done f)
    (h : makeComp cfg gD gL last f c = .ok f') :
    Partial cfg gD gL (done ++ [c]) f' ∧ f'.params = f.params ∧ c.valued = false := by
  obtain ⟨hv, ht, rfl⟩ := (makeComp_eq_ok hg).mp h
  refine ⟨{
      data := ?_
      lamb := ?_
      temp := fun hct => List.forall_mem_append.mpr ⟨fun d hd => ?_, by simp⟩
      tempNil := by simp
      cut := isCut_snoc hp.cut c hc }, rfl, hv⟩
  · simp [total_append, total, hp.data]
  · simp [total_append, total, hp.lamb]
  · -- an earlier component fixed `f.temp`, and the check compared it with `c.temp`
    simpa [hp.temp hct d hd, eq_comm] using ht hct

theorem makeAll_ok {cfg : Cfg} (hg : Good cfg) (gD gL : Comp → V) (last : Comp) :
    ∀ (cs done : List Comp) (f f' : Fn V), (∀ c ∈ cs, 0 ≤ c.cut) → Partial cfg gD gL done f →
      makeAll cfg gD gL last f cs = .ok f' →
      Partial cfg gD gL (done ++ cs) f' ∧ f'.params = f.params ∧ ∀ c ∈ cs, c.valued = false := by
  intro cs done f f' hpos hp h
  fun_induction makeAll cfg gD gL last f cs generalizing done
  · cases h  -- list exhausted
    simpa using hp
  · cases h  -- maker refused
  · next f c cs f₁ hm ih =>  -- maker returned `f₁`
    rw [List.forall_mem_cons] at hpos ⊢
    obtain ⟨hp₁, hpar₁, hv₁⟩ := makeComp_ok hg gD gL last hpos.1 hp hm
    obtain ⟨hp₂, hpar₂, hv₂⟩ := ih (done ++ [c]) hpos.2 hp₁ h
    exact ⟨by simpa using hp₂, hpar₂.trans hpar₁, hv₁, hv₂⟩

theorem partial_empty (cfg : Cfg) (gD gL : Comp → V) : Partial cfg gD gL [] (empty : Fn V) :=
  ⟨rfl, rfl, by simp, fun _ _ => rfl, isCut_nil⟩

theorem convert_false (ps : List Comp) : ps.map (convert false) = ps := List.map_id'' (fun _ => rfl) ps

/-- `l` is the stale loop variable the makers are handed: the last component, or anything when the list is empty -/
theorem build_false (cfg : Cfg) (gD gL : Comp → V) (ps : List Comp) :
    ∃ l, build cfg gD gL false ps = (makeAll cfg gD gL l empty ps).map fun f => { f with params := ps } := by
  unfold build
  simp only [convert_false]
  cases hl : ps.getLast? with
  | none =>
    obtain rfl : ps = [] := List.getLast?_eq_none_iff.mp hl
    exact ⟨⟨0, 0, 0, 0, 0, false⟩, rfl⟩
  | some l =>
    refine ⟨l, ?_⟩
    simp only
    cases makeAll cfg gD gL l empty ps <;> rfl

/-- **the constructor builds the sum of its components**: whenever it returns, the object has the
given list as `params`, `data = Σ gen`, `lamb = Σ λ`, the largest cutoff and - where temperatures are checked
(`cfg.checkTemp`: CorrelationFunction, not SpectralDensity) - one temperature shared by all components; nothing in the
list is value-defined -/
theorem build_consistent {cfg : Cfg} (hg : Good cfg) (gD gL : Comp → V) (ps : List Comp) (f : Fn V)
    (hpos : ∀ c ∈ ps, 0 ≤ c.cut) (hconv : ∀ c ∈ ps, c.conv = 0)
    (h : build cfg gD gL false ps = .ok f) :
    Consistent cfg gD gL f ∧ f.params = ps ∧ ∀ c ∈ ps, c.valued = false := by
  obtain ⟨l, hl⟩ := build_false cfg gD gL ps
  rw [hl] at h
  rcases h₁ : makeAll cfg gD gL l empty ps with e | f₁ <;> rw [h₁] at h
  · cases h  -- a maker refused
  obtain rfl := Except.ok.inj h  -- `f` is `f₁` with `params := ps`
  obtain ⟨hp, _, hv⟩ := makeAll_ok hg gD gL l ps [] empty f₁ hpos (partial_empty cfg gD gL) h₁
  exact ⟨⟨hp.data, hp.lamb, hconv, hp.temp, hp.tempNil, hp.cut⟩, rfl, hv⟩

/-- `a + b` as a function of the two objects (`__add__`: rebuild `a` from its list, `add_to_data(b)`) -/
def plus (cfg : Cfg) (gD gL : Comp → V) (ctx : Bool) (a b : Fn V) : Except Err (Fn V) :=
  match build cfg gD gL (rebuildCtx cfg ctx) a.params with
  | .error e => .error e
  | .ok f => match addToData cfg f b with
    | (_, some e) => .error e
    | (r, none) => .ok r

theorem plus_eq_ok {cfg : Cfg} {gD gL : Comp → V} {ctx : Bool} {a b r : Fn V} :
    plus cfg gD gL ctx a b = .ok r ↔
      ∃ f, build cfg gD gL (rebuildCtx cfg ctx) a.params = .ok f ∧ addToData cfg f b = (r, none) := by
  grind [plus]

theorem step_add_eq (cfg : Cfg) (gD gL : Comp → V) (s : Store V) (i j : Nat) (ctx : Bool) (a b : Fn V)
    (hi : s[i]? = some a) (hj : s[j]? = some b) :
    step cfg gD gL s (.add i j ctx) =
      match plus cfg gD gL ctx a b with
      | .ok r => (s ++ [r], none)
      | .error e => (s, some e) := by
  simp only [step, hi, hj, plus]
  cases build cfg gD gL (rebuildCtx cfg ctx) a.params with
  | error e => rfl
  | ok f =>
    simp only
    rcases h : addToData cfg f b with ⟨r, _ | e⟩ <;> simp

theorem rebuildCtx_good {cfg : Cfg} (hg : Good cfg) (ctx : Bool) : rebuildCtx cfg ctx = false := by
  simp [rebuildCtx, hg.rebuildInt]

/-- the conclusion is the hypothesis `hp`: `IsCut` bounds the contributions from above only and says nothing of their
signs -/
theorem pos_of_cut {x : Rat} {ps : List Comp} (_h : IsCut x ps) (hp : ∀ c ∈ ps, 0 ≤ c.cut) : ∀ c ∈ ps, 0 ≤ c.cut := hp

/-- holds in quantarhei: the contributions are `5·τ` or `5/γ` of positive times -/
def PosCuts (f : Fn V) : Prop := ∀ c ∈ f.params, 0 ≤ c.cut

theorem posCuts_append {a b r : Fn V} (ha : PosCuts a) (hb : PosCuts b) (h : r.params = a.params ++ b.params) :
    PosCuts r := fun x hx => (List.mem_append.mp (h ▸ hx)).elim (ha x) (hb x)

theorem addToData_eq_none {cfg : Cfg} {f g r : Fn V} :
    addToData cfg f g = (r, none) ↔ (cfg.checkTemp = true → f.temp = g.temp) ∧
      r = ⟨f.params ++ g.params, f.data + g.data, f.lamb + g.lamb, f.temp, rmax f.cut g.cut⟩ := by
  grind [addToData]

theorem addToData_consistent {cfg : Cfg} (gD gL : Comp → V) {f g r : Fn V}
    (hf : Consistent cfg gD gL f) (hgc : Consistent cfg gD gL g)
    (h : addToData cfg f g = (r, none)) :
    Consistent cfg gD gL r ∧ r.params = f.params ++ g.params ∧ r.data = f.data + g.data ∧
      r.lamb = f.lamb + g.lamb := by
  obtain ⟨hte, rfl⟩ := addToData_eq_none.mp h
  refine ⟨{
      data := ?_
      lamb := ?_
      conv := List.forall_mem_append.mpr ⟨hf.conv, hgc.conv⟩
      temp := fun hct => List.forall_mem_append.mpr ⟨hf.temp hct, fun c hc => (hte hct).trans (hgc.temp hct c hc)⟩
      tempNil := fun hct hnil => hf.tempNil hct (List.append_eq_nil_iff.mp hnil).1
      cut := isCut_append hf.cut hgc.cut }, rfl, rfl, rfl⟩
  · simp [total_append, hf.data, hgc.data]
  · simp [total_append, hf.lamb, hgc.lamb]

theorem Consistent.temp_eq_head {cfg : Cfg} {gD gL : Comp → V} {f : Fn V} (hf : Consistent cfg gD gL f)
    (hct : cfg.checkTemp = true) : f.temp = f.params.head?.map (·.temp) := by
  cases h : f.params with
  | nil => exact hf.tempNil hct h
  | cons c _ => exact hf.temp hct c (by simp [h])

theorem rebuild_ok {cfg : Cfg} (hg : Good cfg) (gD gL : Comp → V) (ctx : Bool) {a f : Fn V}
    (ha : Consistent cfg gD gL a ∧ PosCuts a)
    (h : build cfg gD gL (rebuildCtx cfg ctx) a.params = .ok f) :
    (Consistent cfg gD gL f ∧ PosCuts f) ∧ f.params = a.params ∧ f.data = a.data ∧ f.lamb = a.lamb := by
  rw [rebuildCtx_good hg] at h
  obtain ⟨hc, hp, _⟩ := build_consistent hg gD gL a.params f ha.2 ha.1.conv h
  exact ⟨⟨hc, fun x hx => ha.2 x (hp ▸ hx)⟩, hp, by rw [hc.data, hp, ← ha.1.data], by rw [hc.lamb, hp, ← ha.1.lamb]⟩

/-- **`copy()` and the rebuild inside `+` reproduce the object**, in any units context -/
theorem copy_spec {cfg : Cfg} (hg : Good cfg) (gD gL : Comp → V) (ctx : Bool) {a f : Fn V}
    (ha : Consistent cfg gD gL a ∧ PosCuts a)
    (h : build cfg gD gL (rebuildCtx cfg ctx) a.params = .ok f) :
    f.params = a.params ∧ f.data = a.data ∧ f.lamb = a.lamb := (rebuild_ok hg gD gL ctx ha h).2

/-- **the sum object**: whenever `a + b` returns, in any units context, the parameter lists are concatenated, data and
reorganisation energies added, and the result is again consistent -/
theorem plus_spec {cfg : Cfg} (hg : Good cfg) (gD gL : Comp → V) (ctx : Bool) {a b r : Fn V}
    (ha : Consistent cfg gD gL a) (hb : Consistent cfg gD gL b) (hpa : PosCuts a)
    (h : plus cfg gD gL ctx a b = .ok r) :
    Consistent cfg gD gL r ∧ r.params = a.params ++ b.params ∧ r.data = a.data + b.data ∧
      r.lamb = a.lamb + b.lamb := by
  obtain ⟨f, hf, hadd⟩ := plus_eq_ok.mp h
  obtain ⟨⟨hfc, _⟩, hp, hd, hl⟩ := rebuild_ok hg gD gL ctx ⟨ha, hpa⟩ hf
  rw [← hp, ← hd, ← hl]
  exact addToData_consistent gD gL hfc hb hadd

/-- **any grouping gives the same function**: `(a+b)+c` and `a+(b+c)` have the same data, the same
reorganisation energy and the same component list -/
theorem plus_assoc {cfg : Cfg} (hg : Good cfg) (gD gL : Comp → V) (c₁ c₂ c₃ c₄ : Bool) {a b c ab bc l r : Fn V}
    (ha : Consistent cfg gD gL a) (hb : Consistent cfg gD gL b) (hc : Consistent cfg gD gL c)
    (hpa : PosCuts a) (hpb : PosCuts b)
    (h1 : plus cfg gD gL c₁ a b = .ok ab) (h2 : plus cfg gD gL c₂ ab c = .ok l)
    (h3 : plus cfg gD gL c₃ b c = .ok bc) (h4 : plus cfg gD gL c₄ a bc = .ok r) :
    l.data = r.data ∧ l.lamb = r.lamb ∧ l.params = r.params := by
  obtain ⟨hab, pab, dab, lab⟩ := plus_spec hg gD gL c₁ ha hb hpa h1
  obtain ⟨_, pl, dl, ll⟩ := plus_spec hg gD gL c₂ hab hc (posCuts_append hpa hpb pab) h2
  obtain ⟨hbc, pbc, dbc, lbc⟩ := plus_spec hg gD gL c₃ hb hc hpb h3
  obtain ⟨_, pr, dr, lr⟩ := plus_spec hg gD gL c₄ ha hbc hpa h4
  simp only [*, add_assoc, List.append_assoc, and_self]

/-- **components at different temperatures are refused** (the left operand stays as it was: `addToData_refusal_keeps`);
`hne` is not needed -/
theorem plus_refuses {cfg : Cfg} (hg : Good cfg) (hct : cfg.checkTemp = true) (gD gL : Comp → V) (ctx : Bool)
    {a b : Fn V} (ha : Consistent cfg gD gL a) (hpa : PosCuts a) (hne : a.params ≠ [])
    (ht : a.temp ≠ b.temp) : ∃ e, plus cfg gD gL ctx a b = .error e := by
  cases h : plus cfg gD gL ctx a b with
  | error e => exact ⟨e, rfl⟩
  | ok r =>
    -- the rebuilt left operand has the temperature of `a`, so `add_to_data` cannot have gone through
    obtain ⟨f, hf, hadd⟩ := plus_eq_ok.mp h
    obtain ⟨⟨hfc, _⟩, hp, _⟩ := rebuild_ok hg gD gL ctx ⟨ha, hpa⟩ hf
    exact absurd (by rw [← (addToData_eq_none.mp hadd).1 hct, hfc.temp_eq_head hct, ha.temp_eq_head hct, hp]) ht

/-- a refused in-place addition leaves the left operand as it was -/
theorem addToData_refusal_keeps {cfg : Cfg} (hg : Good cfg) (f g r : Fn V) (e : Err)
    (h : addToData cfg f g = (r, some e)) : r = f := by
  simp only [addToData, hg.checkFirst, if_true] at h
  split_ifs at h
  · exact (Prod.mk.inj h).1.symm
  · cases h

theorem makeAll_succeeds {cfg : Cfg} (hg : Good cfg) (gD gL : Comp → V) (last : Comp) (t : Rat) :
    ∀ (cs : List Comp) (f : Fn V), (∀ c ∈ cs, c.valued = false) → (∀ c ∈ cs, c.temp = t) →
      (f.temp = none ∨ f.temp = some t) → ∃ f', makeAll cfg gD gL last f cs = .ok f' := by
  intro cs
  induction cs with
  | nil => exact fun f _ _ _ => ⟨f, rfl⟩
  | cons c cs ih =>
    intro f hv ht hf
    rw [List.forall_mem_cons] at hv ht
    simp only [makeAll, (makeComp_eq_ok hg).mpr ⟨hv.1, fun _ => ht.1 ▸ hf, rfl⟩]
    exact ih _ hv.2 ht.2 (Or.inr (congrArg some ht.1))

/-- **when `a + b` succeeds**: no value-defined component on the left and equal temperatures are all that is needed -/
theorem plus_succeeds {cfg : Cfg} (hg : Good cfg) (gD gL : Comp → V) (ctx : Bool) {a b : Fn V}
    (ha : Consistent cfg gD gL a) (hpa : PosCuts a) (hct : cfg.checkTemp = true)
    (hv : ∀ c ∈ a.params, c.valued = false) (ht : a.temp = b.temp) :
    ∃ r, plus cfg gD gL ctx a b = .ok r := by
  -- the rebuild goes through because every component carries the temperature of `a` (the `0` of `getD` stands for the
  -- empty list, where no component asks) …
  obtain ⟨l, hl⟩ := build_false cfg gD gL a.params
  obtain ⟨f₁, h₁⟩ := makeAll_succeeds hg gD gL l (a.temp.getD 0) a.params empty hv
    (fun c hc => by rw [ha.temp hct c hc]; rfl) (Or.inl rfl)
  rw [h₁, ← rebuildCtx_good hg ctx] at hl
  -- … and `add_to_data` because the rebuilt object carries it too
  obtain ⟨⟨hfc, _⟩, hp, _⟩ := rebuild_ok hg gD gL ctx ⟨ha, hpa⟩ hl
  exact ⟨_, plus_eq_ok.mpr ⟨_, hl, addToData_eq_none.mpr ⟨fun _ => by rw [hfc.temp_eq_head hct, hp, ← ha.temp_eq_head hct, ht], rfl⟩⟩⟩

/-- new components have non-negative cutoff contributions and parameters converted once -/
def StmtOK : Stmt → Prop
  | .new ps => ∀ c ∈ ps, 0 ≤ c.cut ∧ c.conv = 0
  | .newValued c => 0 ≤ c.cut ∧ c.conv = 0
  | _ => True

def StoreOK (cfg : Cfg) (gD gL : Comp → V) (s : Store V) : Prop :=
  ∀ f ∈ s, Consistent cfg gD gL f ∧ PosCuts f

theorem storeOK_snoc {cfg : Cfg} {gD gL : Comp → V} {s : Store V} {f : Fn V}
    (hs : StoreOK cfg gD gL s) (hf : Consistent cfg gD gL f ∧ PosCuts f) : StoreOK cfg gD gL (s ++ [f]) :=
  List.forall_mem_append.mpr ⟨hs, List.forall_mem_singleton.mpr hf⟩

theorem storeOK_set {cfg : Cfg} {gD gL : Comp → V} {s : Store V} {f : Fn V} (i : Nat)
    (hs : StoreOK cfg gD gL s) (hf : Consistent cfg gD gL f ∧ PosCuts f) : StoreOK cfg gD gL (s.set i f) := by
  intro g hg
  rcases List.mem_or_eq_of_mem_set hg with h | h
  · exact hs g h
  · rwa [h]

theorem addToData_ok {cfg : Cfg} (hg : Good cfg) (gD gL : Comp → V) {f g : Fn V}
    (hf : Consistent cfg gD gL f ∧ PosCuts f) (hgc : Consistent cfg gD gL g ∧ PosCuts g) :
    Consistent cfg gD gL (addToData cfg f g).1 ∧ PosCuts (addToData cfg f g).1 := by
  rcases h : addToData cfg f g with ⟨r, _ | e⟩
  · obtain ⟨hc, hp, _, _⟩ := addToData_consistent gD gL hf.1 hgc.1 h
    exact ⟨hc, posCuts_append hf.2 hgc.2 hp⟩
  · rwa [addToData_refusal_keeps hg f g r e h]

/-- **every statement keeps every object consistent with its component list** -/
theorem step_consistent {cfg : Cfg} (hg : Good cfg) (gD gL : Comp → V) (s : Store V) (st : Stmt)
    (hs : StoreOK cfg gD gL s) (hst : StmtOK st) : StoreOK cfg gD gL (step cfg gD gL s st).1 := by
  have mem {i : Nat} {a : Fn V} (h : s[i]? = some a) := hs a (List.mem_of_getElem? h)
  -- five branches of `step` append or replace an object, the others leave the store alone
  fun_cases step cfg gD gL s st
  any_goals exact hs
  · next ps f hb =>
    -- `.new ps`, built
    obtain ⟨hpos, hconv⟩ := forall₂_and.mp hst
    obtain ⟨hc, hp, _⟩ := build_consistent hg gD gL ps f hpos hconv hb
    exact storeOK_snoc hs ⟨hc, by rwa [PosCuts, hp]⟩
  · next c =>
    -- `.newValued c`: the one-component object written out in `step`
    refine storeOK_snoc hs ⟨⟨?_, ?_, ?_, ?_, ?_, isCut_singleton hst.1⟩, ?_⟩
    all_goals simp [total, PosCuts, hst.1, hst.2]
  · next i j ctx a b hj hi f hf r hr =>
    -- `.add i j`: `a` rebuilt as `f`, then `add_to_data(b)`
    have := addToData_ok hg gD gL (rebuild_ok hg gD gL ctx (mem hi) hf).1 (mem hj)
    exact storeOK_snoc hs (by rwa [hr] at this)
  · next i j ctx a b hj hi ocor o ho r e hr =>
    -- `.iadd i j`: `add_to_data(o)` on `a`, where `o` is `b`, or `b` rebuilt when `i = j`
    have := addToData_ok hg gD gL (mem hi) (g := o) ?_
    · exact storeOK_set i hs (by rwa [hr] at this)
    simp only [ocor] at ho
    split_ifs at ho
    · exact (rebuild_ok hg gD gL ctx (mem hj) ho).1
    · exact Except.ok.inj ho ▸ mem hj
  · next i ctx a hi f hf =>
    -- `.copy i`
    exact storeOK_snoc hs (rebuild_ok hg gD gL ctx (mem hi) hf).1

/-- **for every program** (every history of constructions, additions in any grouping, in-place
additions including `x += x`, copies, refused additions in between, in any units context) every
object of the store has `data = Σ` of the generators of its component list, `lamb = Σ` of their
reorganisation energies, the largest cutoff and - CorrelationFunction only (`cfg.checkTemp`, which `sdCfg` does not
set) - a single temperature -/
theorem run_consistent {cfg : Cfg} (hg : Good cfg) (gD gL : Comp → V) :
    ∀ (prog : List Stmt) (s : Store V), StoreOK cfg gD gL s → (∀ st ∈ prog, StmtOK st) →
      StoreOK cfg gD gL (run cfg gD gL s prog) := by
  intro prog
  induction prog with
  | nil => exact fun s hs _ => hs
  | cons st rest ih =>
    intro s hs hok
    rw [List.forall_mem_cons] at hok
    exact ih _ (step_consistent hg gD gL s st hs hok.1) hok.2

theorem run_consistent_cf (gD gL : Comp → V) (prog : List Stmt) (hok : ∀ st ∈ prog, StmtOK st) :
    StoreOK cfCfg gD gL (run cfCfg gD gL [] prog) :=
  run_consistent cfCfg_good gD gL prog [] (fun _ => nofun) hok
theorem run_consistent_sd (gD gL : Comp → V) (prog : List Stmt) (hok : ∀ st ∈ prog, StmtOK st) :
    StoreOK sdCfg gD gL (run sdCfg gD gL [] prog) :=
  run_consistent sdCfg_good gD gL prog [] (fun _ => nofun) hok

theorem iadd_spec {cfg : Cfg} (gD gL : Comp → V) (s : Store V) (i j : Nat) (ctx : Bool) (a b : Fn V)
    (hij : i ≠ j) (hi : s[i]? = some a) (hj : s[j]? = some b)
    (hok : (step cfg gD gL s (.iadd i j ctx)).2 = none) :
    ∃ r, (step cfg gD gL s (.iadd i j ctx)).1 = s.set i r ∧ r.data = a.data + b.data ∧
      r.lamb = a.lamb + b.lamb ∧ r.params = a.params ++ b.params := by
  simp only [step, hi, hj, if_neg hij] at hok ⊢
  exact ⟨_, rfl, by simp only [(addToData_eq_none.mp (Prod.ext rfl hok)).2, and_self]⟩

/-- `x += x` doubles the object (the right operand is rebuilt from the list first) -/
theorem iadd_self_spec {cfg : Cfg} (hg : Good cfg) (gD gL : Comp → V) (s : Store V) (i : Nat) (ctx : Bool)
    (a : Fn V) (ha : Consistent cfg gD gL a ∧ PosCuts a) (hi : s[i]? = some a)
    (hok : (step cfg gD gL s (.iadd i i ctx)).2 = none) :
    ∃ r, (step cfg gD gL s (.iadd i i ctx)).1 = s.set i r ∧ r.data = a.data + a.data ∧
      r.lamb = a.lamb + a.lamb ∧ r.params = a.params ++ a.params := by
  simp only [step, hi, if_true] at hok ⊢
  rcases hbd : build cfg gD gL (rebuildCtx cfg ctx) a.params with e | o <;> simp only [hbd] at hok ⊢
  · cases hok
  · obtain ⟨_, hp, hd, hl⟩ := rebuild_ok hg gD gL ctx ha hbd
    exact ⟨_, rfl, by simp only [(addToData_eq_none.mp (Prod.ext rfl hok)).2, hp, hd, hl, and_self]⟩

end

end QV.C09
