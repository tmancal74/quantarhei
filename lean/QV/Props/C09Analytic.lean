import Mathlib.Analysis.SpecialFunctions.ImproperIntegrals

/-!
# C09 — the declared reorganisation energy of the analytic (overdamped Brownian) forms is the one
carried by the data: `−Im C(t) = (λ/τ) e^{−t/τ}` for both `OverdampedBrownian` and
`OverdampedBrownian-HighTemperature` (`_make_overdamped_brownian*`), and `∫₀^∞ (λ/τ) e^{−t/τ} dt = λ`.
That the spline quadrature of `measure_reorganization_energy` on a finite axis reproduces the
integral is measured by the harness (the code's own tolerance 1e-3), not proved.
-/
namespace QV.C09
open MeasureTheory

/-- on a finite window `[0, T]` the recovered value misses `λ e^{−T/τ}`: the relative error of the
recovery is `e^{−T/τ}` (below 1e-3 once `T ≥ 7τ`) -/
theorem reorg_window (lam tau T : ℝ) (ht : 0 < tau) :
    ∫ t in Set.Ioi T, (lam / tau) * Real.exp (-(1 / tau) * t) = lam * Real.exp (-(1 / tau) * T) := by
  rw [integral_const_mul, integral_exp_mul_Ioi (neg_lt_zero.mpr (one_div_pos.mpr ht)) T]
  field_simp

theorem reorg_closed_form (lam tau : ℝ) (ht : 0 < tau) :
    ∫ t in Set.Ioi (0 : ℝ), (lam / tau) * Real.exp (-(1 / tau) * t) = lam := by
  rw [reorg_window lam tau 0 ht, mul_zero, Real.exp_zero, mul_one]

end QV.C09
