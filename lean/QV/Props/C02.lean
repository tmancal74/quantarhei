import QV.Props.C07
import QV.Lemmas.TruncBound

/-!
# C02 — propagated density matrices stay valid states and follow the generator
Exact statements (trace, Hermiticity) for every expansion order, refinement, step, number of stored times and
dimension: instances of `taylorTrajectory_conserved` and `taylorTrajectory_fixed_dt`; accuracy from `Lemmas/TruncBound`.
-/
namespace QV.Prop
open QV.C01

variable {n : Nat}

section field
variable {α : Type} [Field α]

theorem trace_comm (H ρ : Mat α n) : ∑ a, comm H ρ a a = 0 := by
  show Matrix.trace (Matrix.of (comm H ρ)) = 0
  rw [of_comm, Matrix.trace_sub, Matrix.trace_mul_comm, sub_self]

theorem trace_tensApply (R : Tens α n) (hR : TraceFree R) (ρ : Mat α n) : ∑ a, tensApply R ρ a a = 0 := by
  simp only [tensApply_eq]
  rw [← Finset.sum_comm_cycle]
  exact Finset.sum_eq_zero fun c _ => Finset.sum_eq_zero fun d _ => by rw [← Finset.sum_mul, hR c d, zero_mul]

theorem genTensor_trace (ii : α) (H : Mat α n) (R : Tens α n) (hR : TraceFree R) (c : α) (ρ : MatD α n n) :
    trace (genTensor ii H R c ρ).fn = 0 := by
  simp only [genTensor_fn, trace_eq, Finset.sum_add_distrib, Finset.sum_neg_distrib,
    ← Finset.mul_sum, trace_comm, trace_tensApply R hR, mul_zero, neg_zero, add_zero]

theorem madd_trace (a b : MatD α n n) : trace (madd a b).fn = trace a.fn + trace b.fn := by
  simp only [madd_fn, trace_eq, Finset.sum_add_distrib]

/-- **the trace is the same at every stored time** (tensor form) -/
theorem rdm_trace_conserved (ii : α) (H : Mat α n) (R : Tens α n) (hR : TraceFree R) (dt : α)
    (L Nref nt : Nat) (ρ0 : MatD α n n) :
    ∀ ρ ∈ rdmPropagate (genTensor ii H R) dt L Nref nt ρ0, trace ρ.fn = trace ρ0.fn :=
  taylorTrajectory_conserved (genTensor ii H R) madd _ (fun x => trace x.fn) madd_trace
    (genTensor_trace ii H R hR) L Nref nt ρ0

/-- **the trace is the same at every stored time in operator form** too, for ANY operator components (Redfield or
Lindblad) -/
theorem rdm_trace_conserved_ops (ii : α) (H : Mat α n) (comps : List (Mat α n × Mat α n × Mat α n)) (dt : α)
    (L Nref nt : Nat) (ρ0 : MatD α n n) :
    ∀ ρ ∈ rdmPropagate (genOps ii H comps) dt L Nref nt ρ0, trace ρ.fn = trace ρ0.fn := by
  rw [propagate_ops_eq_tensor]
  exact rdm_trace_conserved ii H _ (redfieldTensor_trace comps) dt L Nref nt ρ0

/-- closed system (Hamiltonian only) -/
theorem rdm_trace_conserved_closed (ii : α) (H : Mat α n) (dt : α) (L Nref nt : Nat) (ρ0 : MatD α n n) :
    ∀ ρ ∈ rdmPropagate (genH ii H) dt L Nref nt ρ0, trace ρ.fn = trace ρ0.fn := by
  apply taylorTrajectory_conserved (genH ii H) madd _ (fun x => trace x.fn) madd_trace
  intro c ρ
  simp only [genH_fn, trace_eq, Finset.sum_neg_distrib, ← Finset.mul_sum, trace_comm, mul_zero, neg_zero]
end field

section star
variable {α : Type} [Field α] [StarRing α]

def dagger (x : MatD α n n) : MatD α n n := MatD.tab (fun a b => star (x.fn b a))

theorem dagger_fn (x : MatD α n n) : (dagger x).fn = fun a b => star (x.fn b a) := MatD.fn_tab _

theorem dagger_madd (a b : MatD α n n) : dagger (madd a b) = madd (dagger a) (dagger b) :=
  MatD.ext_of_fn (by simp only [dagger_fn, madd_fn, star_add])

theorem comm_dagger (H ρ : Mat α n) (hH : ∀ i j, star (H i j) = H j i) (a b : Fin n) :
    star (comm H ρ b a) = -(comm H (fun i j => star (ρ j i)) a b) := by
  rw [comm, comm, star_sub, star_matMul, star_matMul, funext₂ fun i j => hH j i, neg_sub]

theorem tensApply_dagger (R : Tens α n) (hR : HermPres R) (ρ : Mat α n) (a b : Fin n) :
    star (tensApply R ρ b a) = tensApply R (fun i j => star (ρ j i)) a b := by
  simp only [tensApply, sumFin_eq_sum, star_sum, star_mul']
  rw [Finset.sum_comm]
  exact Finset.sum_congr rfl fun c _ => Finset.sum_congr rfl fun d _ => by rw [hR b a d c]

theorem genTensor_dagger (ii : α) (hi : star ii = -ii) (H : Mat α n) (hH : ∀ i j, star (H i j) = H j i)
    (R : Tens α n) (hR : HermPres R) (c : α) (hc : star c = c) (ρ : MatD α n n) :
    dagger (genTensor ii H R c ρ) = genTensor ii H R c (dagger ρ) := by
  apply MatD.ext_of_fn
  funext a b
  simp only [dagger_fn, genTensor_fn, star_add, star_neg, star_mul', hi, hc, comm_dagger H _ hH, tensApply_dagger R hR]
  ring

/-- **a Hermitian initial state stays Hermitian at every stored time** when the Hamiltonian is
Hermitian, the tensor commutes with conjugation and the time step is real -/
theorem rdm_herm_preserved (ii : α) (hi : star ii = -ii) (H : Mat α n) (hH : ∀ i j, star (H i j) = H j i)
    (R : Tens α n) (hR : HermPres R) (dt : α) (hdt : star dt = dt) (L Nref nt : Nat) (ρ0 : MatD α n n)
    (h0 : dagger ρ0 = ρ0) :
    ∀ ρ ∈ rdmPropagate (genTensor ii H R) dt L Nref nt ρ0, dagger ρ = ρ := by
  apply taylorTrajectory_fixed_dt (genTensor ii H R) madd _ dagger dagger_madd _ L Nref nt ρ0 h0
  intro l x
  apply genTensor_dagger ii hi H hH R hR
  rw [star_div₀, star_div₀, hdt, star_natCast, star_natCast]  -- the time factor `dt/Nref/l` is real
end star

section bound
open NormedSpace Finset
variable {𝔸 : Type} [NormedRing 𝔸] [NormOneClass 𝔸] [NormedAlgebra ℚ 𝔸] [CompleteSpace 𝔸]

/-- **the stored states follow the generator**: in any complete normed algebra containing the generator
`𝓛` (superoperators for density matrices; `y` = the propagated object), `m` elementary steps of the order-`L` loop with
step `dt` are within the truncation bound of `exp(m·dt·𝓛) y`.  For a GKSL generator this is the distance to the exact
(completely positive) Lindblad evolution; for `𝓛 = −i[H,·]` to the unitary evolution, whence norm, purity and energy are
conserved within multiples of the same bound.  `steps_within_truncation_bound` under the name the C02 claim uses. -/
theorem states_within_truncation_bound (𝓛 : 𝔸) (dt : ℚ) (L m : ℕ) (y : 𝔸) :
    ‖taylorSteps (algGen 𝓛) (· + ·) dt L m y - exp ((m : ℕ) • (dt • 𝓛)) * y‖ ≤
      (m * Real.exp ‖dt • 𝓛‖ ^ (m - 1) *
        (Real.exp ‖dt • 𝓛‖ - ∑ k ∈ range (L + 1), ‖dt • 𝓛‖ ^ k / k.factorial)) * ‖y‖ :=
  steps_within_truncation_bound 𝓛 dt L m y

/-- one step of the loop IS the order-`L` Taylor polynomial of `dt·𝓛` (what the bound is about): `taylorStep_alg`
under the name the C02 claim uses -/
theorem loop_is_taylor_polynomial (𝓛 : 𝔸) (dt : ℚ) (L : ℕ) (y : 𝔸) :
    taylorStep (algGen 𝓛) (· + ·) dt L y = taylorPoly (L + 1) (dt • 𝓛) * y :=
  taylorStep_alg 𝓛 dt L y
end bound

end QV.Prop
