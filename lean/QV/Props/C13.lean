import QV.Model.C13
import QV.Lemmas.Bridge
import Mathlib.Data.Nat.ModEq
import Mathlib.Tactic.FieldSimp

/-!
# C13 — Fourier transforms and time/frequency axes are mutually inverse
`fftshift`, `ifftshift` read `n − n/2` resp. `n/2` places ahead, mod `n`; hence the transform on a complete axis is the
direct Fourier sum on axes centred at zero.
-/
namespace QV.C13

section axes
variable {K : Type} [Field K] [CharZero K]

theorem shiftedFreq_step (n : Nat) (d : K) :
    shiftedFreq n d 1 - shiftedFreq n d 0 = 2 / ((n : K) * d) := by
  unfold shiftedFreq; ring

theorem shiftedFreq_eq (n : Nat) (d : K) (j : Nat) :
    shiftedFreq n d j = ((j : K) - ((n / 2 : Nat) : K)) * (2 / ((n : K) * d)) := by
  unfold shiftedFreq; ring

/-- the step `d ↦ 2 / (n d)` of the other axis, taken twice -/
theorem step_roundtrip {n d : K} (hn : n ≠ 0) (hd : d ≠ 0) : 2 / (n * (2 / (n * d))) = d := by
  field_simp

/-- **time → frequency → time is the identity on complete axes**, for every length (even or odd),
start, step and frequency offset -/
theorem axis_roundtrip_complete (t : TAxis K) (hu : t.upper = false) (hN : (t.len : K) ≠ 0) (hd : t.step ≠ 0) :
    toTime (toFreq t) = some t := by
  obtain ⟨start, len, step, upper, fstart⟩ := t
  subst hu
  -- (and twice below) the fields left, `start` and `fstart`/`tstart`, are identities of `ring` by `shiftedFreq_eq`
  simp only [toFreq, toTime, Bool.false_eq_true, if_false, shiftedFreq_step, Option.some.injEq, TAxis.mk.injEq]
  simp only [shiftedFreq_eq, step_roundtrip hN hd, true_and]
  constructor <;> ring

/-- **time → frequency → time is the identity on upper-half axes** (the frequency axis has `2N` points) -/
theorem axis_roundtrip_upper (t : TAxis K) (hu : t.upper = true) (hN : (t.len : K) ≠ 0) (hd : t.step ≠ 0) :
    toTime (toFreq t) = some t := by
  obtain ⟨start, len, step, upper, fstart⟩ := t
  subst hu
  have h2N : ((2 * len : Nat) : K) ≠ 0 := by simpa using hN
  simp only [toFreq, toTime, if_true, Nat.mul_mod_right, ne_eq, not_true_eq_false, if_false, shiftedFreq_step,
    Option.some.injEq, TAxis.mk.injEq]
  simp only [shiftedFreq_eq, step_roundtrip h2N hd, Nat.mul_div_cancel_left len Nat.two_pos, true_and]
  constructor <;> ring

/-- **frequency → time → frequency is the identity on complete axes** -/
theorem freq_roundtrip_complete (w : FAxis K) (hu : w.upper = false) (hN : (w.len : K) ≠ 0) (hd : w.step ≠ 0)
    (t : TAxis K) (ht : toTime w = some t) : toFreq t = w := by
  obtain ⟨start, len, step, upper, tstart⟩ := w
  subst hu
  simp only [toTime, Bool.false_eq_true, if_false, Option.some.injEq] at ht
  subst ht
  simp only [toFreq, Bool.false_eq_true, if_false, shiftedFreq_step, FAxis.mk.injEq]
  simp only [shiftedFreq_eq, step_roundtrip hN hd, true_and]
  constructor <;> ring

/-- an upper-half frequency axis with an odd number of points has no time axis (the code raises) -/
theorem upper_odd_refused (w : FAxis K) (hu : w.upper = true) (ho : w.len % 2 = 1) : toTime w = none := by
  simp [toTime, hu, ho]
end axes

section shifts
variable {β : Type} {n : Nat}

/-- `roll (n − h)` reads `h` places ahead -/
theorem rot_mod (n h m : Nat) (hh : h < n) : (m + n - (n - h) % n) % n = (m + h) % n := by
  rcases Nat.eq_zero_or_pos h with rfl | h0
  · simp
  · rw [Nat.mod_eq_of_lt (Nat.sub_lt (Nat.zero_lt_of_lt hh) h0), Nat.add_sub_assoc (Nat.sub_le n h), Nat.sub_sub_self hh.le]

theorem fftshift_apply (hn : 0 < n) (x : Fin n → β) (j : Fin n) :
    fftshift x j = x ⟨(j.val + (n - n / 2)) % n, Nat.mod_lt _ hn⟩ := by
  unfold fftshift roll
  congr 2
  rw [Nat.mod_eq_of_lt (Nat.div_lt_self hn one_lt_two), Nat.add_sub_assoc (Nat.div_le_self n 2)]

theorem ifftshift_apply (hn : 0 < n) (x : Fin n → β) (j : Fin n) :
    ifftshift x j = x ⟨(j.val + n / 2) % n, Nat.mod_lt _ hn⟩ := by
  unfold ifftshift roll
  congr 2
  exact rot_mod n (n / 2) j.val (Nat.div_lt_self hn one_lt_two)

theorem shift_bijective (hn : 0 < n) (s : Nat) :
    Function.Bijective fun j : Fin n => (⟨(j.val + s) % n, Nat.mod_lt _ hn⟩ : Fin n) := by
  refine Finite.injective_iff_bijective.mp fun a b hab => Fin.ext ?_
  have : a.val % n = b.val % n := Nat.ModEq.add_right_cancel' s (congrArg Fin.val hab)
  rwa [Nat.mod_eq_of_lt a.isLt, Nat.mod_eq_of_lt b.isLt] at this

theorem shift_shift {s t j : Nat} (hst : s + t = n) (hj : j < n) : ((j + s) % n + t) % n = j := by
  rw [Nat.mod_add_mod, Nat.add_assoc, hst, Nat.add_mod_right, Nat.mod_eq_of_lt hj]

theorem fftshift_add_half {N : Nat} (x : Fin (2 * N) → β) (k : Nat) (hk : k < N) :
    fftshift x ⟨N + k, Nat.two_mul N ▸ Nat.add_lt_add_left hk N⟩ = x ⟨k, hk.trans_le (Nat.le_mul_of_pos_left N two_pos)⟩ := by
  rw [fftshift_apply (Nat.mul_pos two_pos (Nat.zero_lt_of_lt hk))]
  refine congrArg x (Fin.ext ?_)
  show (N + k + (2 * N - 2 * N / 2)) % (2 * N) = k
  rw [Nat.mul_div_cancel_left N two_pos, Nat.two_mul, Nat.add_sub_cancel, Nat.add_right_comm, Nat.add_mod_left,
    Nat.mod_eq_of_lt (hk.trans_le (Nat.le_add_left N N))]

end shifts

section ft
variable {α : Type} [CommSemiring α]

/-- **`N·fftshift(ifft(ifftshift(y)))·dt` is `Σ_m y[m] ζ^{(j−h)(m−h)}·dt` with `h = N//2`**, i.e. the
direct Fourier sum `Σ f(t_m) e^{iω_j t_m} dt` on axes centred at zero (`t_m = (m−h)dt`,
`ω_j = 2π(j−h)/(N dt)`), for EVERY length `N ≥ 1`, even or odd -/
theorem ftComplete_eq_directSum {n : Nat} (hn : 0 < n) (ζ dt : α) (y : Fin n → α) (j : Fin n) :
    ftComplete ζ dt y j = directSum ζ dt y j := by
  simp only [ftComplete, directSum, fftshift_apply hn, dft, ifftshift_apply hn, sumFin_eq_sum]
  congr 1
  have hh := Nat.div_le_self n 2
  -- term `m` on the right is term `(m + (n − h)) mod n` on the left: its data index shifts back to `m`, and the
  -- exponents are the two sides of `Nat.mul_mod`
  refine (Fintype.sum_bijective _ (shift_bijective hn (n - n / 2)) _ _ fun m => ?_).symm
  simp only [shift_shift (Nat.sub_add_cancel hh) m.isLt, Nat.add_sub_assoc hh, ← Nat.mul_mod]

/-- the inverse transform on a complete axis is the same index map with the conjugate root -/
theorem iftComplete_eq_directSum {n : Nat} (hn : 0 < n) (ζ dt : α) (y : Fin n → α) (j : Fin n) :
    iftComplete ζ dt y j = directSum ζ dt y j :=
  ftComplete_eq_directSum hn ζ dt y j
end ft

end QV.C13
