import QV.Model.C17
import QV.Lemmas.Bridge
import QV.Lemmas.Taylor

/-!
# C17 — population (master-equation) dynamics conserve and match the exponential
`setRateNM`/`setRateMM` are re-extracted from `RateMatrix.set_rate` on every run.
-/
namespace QV.C17

section
variable {α : Type} [CommRing α] {N : Nat}

theorem colSum_eq (K : Fin N → Fin N → α) (j : Fin N) : colSum K j = ∑ i, K i j := sumFin_eq_sum N _

/-- what an accepted `set_rate((n, m), v)` leaves in the matrix -/
theorem setRate_eq_some {K K' : Fin N → Fin N → α} {n m : Fin N} {v : α} (h : setRate K n m v = some K') :
    n ≠ m ∧ ∀ i j, K' i j = if i = n ∧ j = m then v else if i = m ∧ j = m then K m m + K n m - v else K i j := by
  unfold setRate at h
  split_ifs at h with hnm
  obtain rfl := Option.some.inj h
  -- `rfl` unfolds the generated `setRateNM = value` and `setRateMM = (dMM + dNM) - value`: this is the line that fails
  -- when the source of `set_rate` computes something else
  exact ⟨hnm, fun _ _ => rfl⟩

theorem setRate_value (K K' : Fin N → Fin N → α) (n m : Fin N) (v : α)
    (h : setRate K n m v = some K') : K' n m = v := by
  rw [(setRate_eq_some h).2, if_pos ⟨rfl, rfl⟩]

theorem setRate_refused_iff (K : Fin N → Fin N → α) (n m : Fin N) (v : α) :
    setRate K n m v = none ↔ n = m := by
  simp [setRate]

theorem setRate_frame (K K' : Fin N → Fin N → α) (n m : Fin N) (v : α)
    (h : setRate K n m v = some K') (i j : Fin N) (hij : i ≠ j) (hnm : ¬ (i = n ∧ j = m)) :
    K' i j = K i j := by
  rw [(setRate_eq_some h).2, if_neg hnm, if_neg fun ⟨a, b⟩ => hij (a.trans b.symm)]

/-- **every column sum is unchanged by `set_rate`** (the diagonal compensates) -/
theorem setRate_colsum (K K' : Fin N → Fin N → α) (n m : Fin N) (v : α)
    (h : setRate K n m v = some K') (j : Fin N) : colSum K' j = colSum K j := by
  obtain ⟨hnm, hK'⟩ := setRate_eq_some h
  rw [colSum_eq, colSum_eq, ← sub_eq_zero, ← Finset.sum_sub_distrib]
  by_cases hj : j = m
  · -- in column `m` only the rows `n` and `m` change, by `v - K n m` and its negative
    rw [Fintype.sum_eq_add n m hnm fun c hc => by simp [hK', hc.1, hc.2]]
    simp [hK', hj, hnm.symm]
    ring
  · simp [hK', hj]

/-- **any history of rate assignments keeps the column sums** -/
theorem setRates_colsum (hist : List (Fin N × Fin N × α)) (K : Fin N → Fin N → α) (j : Fin N) :
    colSum (setRates K hist) j = colSum K j := by
  fun_induction setRates K hist with
  | case1 => rfl
  | case2 K n m v rest ih =>
    rw [ih]
    cases h : setRate K n m v with
    | none => rfl
    | some K' => exact setRate_colsum K K' n m v h j

theorem setRates_from_zero (hist : List (Fin N × Fin N × α)) (j : Fin N) :
    colSum (setRates (fun _ _ => (0 : α)) hist) j = 0 := by
  rw [setRates_colsum, colSum_eq]; exact Finset.sum_const_zero

/-- the value found at an off-diagonal position after a history is the last one assigned there -/
def lastAssigned (hist : List (Fin N × Fin N × α)) (i j : Fin N) : Option α :=
  (hist.reverse.find? (fun op => op.1 = i ∧ op.2.1 = j)).map (·.2.2)

omit [CommRing α] in
theorem lastAssigned_cons (n m : Fin N) (v : α) (rest : List (Fin N × Fin N × α)) (i j : Fin N) :
    lastAssigned ((n, m, v) :: rest) i j = (lastAssigned rest i j).or (if n = i ∧ m = j then some v else none) := by
  -- reversed, the new head comes last: `find?` falls back on it
  simp [lastAssigned, Option.map_or]

theorem setRates_last_value (hist : List (Fin N × Fin N × α)) (K : Fin N → Fin N → α)
    (i j : Fin N) (hij : i ≠ j) :
    setRates K hist i j = (lastAssigned hist i j).getD (K i j) := by
  fun_induction setRates K hist with
  | case1 => rfl
  | case2 K n m v rest ih =>
    rw [ih, lastAssigned_cons, Option.getD_or]
    congr 1
    -- one assignment: `v` at the position assigned, the old entry everywhere else off the diagonal
    cases h : setRate K n m v with
    | none => rw [if_neg fun ⟨a, b⟩ => hij (a.symm.trans (((setRate_refused_iff K n m v).mp h).trans b))]; rfl
    | some K' =>
      by_cases hc : n = i ∧ m = j
      · rw [if_pos hc, ← hc.1, ← hc.2]; exact setRate_value K K' n m v h
      · rw [if_neg hc]; exact setRate_frame K K' n m v h i j hij fun ⟨a, b⟩ => hc ⟨a.symm, b.symm⟩
end

section
variable {α : Type} [Field α] {N : Nat}

theorem popGen_sum (K : Fin N → Fin N → α) (hK : ∀ j, colSum K j = 0) (c : α) (x : VecD α N) :
    sumFin N (popGen K c x).fn = 0 := by
  simp only [popGen, VecD.fn_tab, sumFin_eq_sum, matVec]
  rw [← Finset.mul_sum, Finset.sum_comm]
  simp only [← Finset.sum_mul, ← colSum_eq, hK, zero_mul, Finset.sum_const_zero, mul_zero]

theorem popAdd_sum (a b : VecD α N) : sumFin N (popAdd a b).fn = sumFin N a.fn + sumFin N b.fn := by
  simp only [popAdd, VecD.fn_tab, sumFin_eq_sum, Finset.sum_add_distrib]

/-- **the population sum is conserved at every stored time** whenever the columns sum to zero -/
theorem pop_sum_conserved (K : Fin N → Fin N → α) (hK : ∀ j, colSum K j = 0) (dt : α) (L Nref nt : Nat)
    (p0 : VecD α N) : ∀ p ∈ popPropagate K dt L Nref nt p0, sumFin N p.fn = sumFin N p0.fn :=
  taylorTrajectory_conserved (popGen K) popAdd dt (fun x => sumFin N x.fn) popAdd_sum
    (popGen_sum K hK) L Nref nt p0

theorem pop_sum_conserved_after_history (hist : List (Fin N × Fin N × α)) (dt : α) (L Nref nt : Nat)
    (p0 : VecD α N) :
    ∀ p ∈ popPropagate (setRates (fun _ _ => (0 : α)) hist) dt L Nref nt p0,
      sumFin N p.fn = sumFin N p0.fn :=
  pop_sum_conserved _ (setRates_from_zero hist) dt L Nref nt p0
end

section
variable {M : Type} [Monoid M]

theorem propMatrices_pw (E : M) : ∀ k u, propMatrices.pw E k u = E ^ k * u := by
  intro k u
  fun_induction propMatrices.pw E k u with
  | case1 u => rw [pow_zero, one_mul]
  | case2 k u ih => rw [ih, pow_succ, mul_assoc]

theorem propMatrices_go (E : M) : ∀ len u i, i < len →
    (propMatrices.go E len u)[i]? = some (E ^ i * u)
  | _ + 1, u, 0, _ => by rw [pow_zero, one_mul]; rfl
  | len + 1, u, i + 1, h => by
    rw [pow_succ, mul_assoc]
    exact propMatrices_go E len (E * u) i (Nat.lt_of_succ_lt_succ h)

/-- **the i-th returned matrix is `E^i · U₀`** with `U₀ = 1`, `E^Ns` (shifted start on the sub-axis
grid) or `Edt` (shifted start off the grid); with `E = exp(K·step)`, `Edt = exp(K·Δ)` this is
`exp(K·(Δ + i·step))` -/
theorem propMatrices_get (E Edt : M) (same grid : Bool) (Ns len i : Nat) (h : i < len) :
    (propMatrices 1 E Edt same grid Ns len)[i]? =
      some (E ^ i * (if same then 1 else if grid then E ^ Ns else Edt)) := by
  rw [propMatrices, propMatrices_go E len _ i h, propMatrices_pw, mul_one, mul_one]

theorem propMatrices_on_grid (E Edt : M) (Ns len i : Nat) (h : i < len) :
    (propMatrices 1 E Edt false true Ns len)[i]? = some (E ^ (Ns + i)) := by
  rw [propMatrices_get E Edt false true Ns len i h, Nat.add_comm, pow_add]
  rfl
end

/-- non-vacuity: overwrite a rate, column sums stay zero and the last value wins -/
example : (setRates (fun _ _ => (0 : Int)) [((0 : Fin 3), (1 : Fin 3), 5), (0, 1, 2), (2, 2, 7), (2, 1, 4)]) 0 1 = 2
    ∧ colSum (setRates (fun _ _ => (0 : Int)) [((0 : Fin 3), (1 : Fin 3), 5), (0, 1, 2), (2, 2, 7), (2, 1, 4)]) 1 = 0 := by
  decide

end QV.C17
