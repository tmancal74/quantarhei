import QV.Props.C07

/-!
# C07 — "in every basis": the transformed tensor acts on the transformed operator as the transformed result
`RelaxationTensor.transform(SS, inv=S1)` (model `transformTwoPass`, the two passes as written in the code and
tied to it by the C01 correspondence) contracts the first and third index with `S1` and the second and fourth with
`SS`.  For the orthogonal eigenvector matrices the package passes (`S1 = SSᵀ`, `S1ᵀ S1 = 1`, `SS SSᵀ = 1`) this is
a similarity transformation of the superoperator; with `applyOps_eq_apply` it carries the equality of the operator
and tensor forms from one basis to every other.
-/
namespace QV.Prop
open QV.C01

variable {α : Type} [CommRing α] {n : Nat}

/-- `S1 ρ SS`: an operator transformed as `Operator.transform(SS, inv=S1)` does -/
def sandwich (S1 SS ρ : Mat α n) : Mat α n := matMul S1 (matMul ρ SS)

theorem of_sandwich (S1 SS A : Mat α n) :
    Matrix.of (sandwich S1 SS A) = Matrix.of S1 * (Matrix.of A * Matrix.of SS) := by
  rw [sandwich, of_matMul, of_matMul]

theorem sum4_swap (f : Fin n → Fin n → Fin n → Fin n → α) :
    ∑ c, ∑ d, ∑ x, ∑ y, f c d x y = ∑ x, ∑ y, ∑ c, ∑ d, f c d x y :=
  sum4_comm_congr fun _ _ _ _ => rfl

/-- moving the second pass of the transformation from the tensor onto the operator it acts on -/
theorem pass_to_operator (S1 SS R1 P : Mat α n) :
    ∑ c, ∑ d, (∑ c', ∑ d', S1 c c' * R1 c' d' * SS d' d) * P c d
      = ∑ c', ∑ d', R1 c' d' * (∑ c, ∑ d, S1 c c' * P c d * SS d' d) := by
  simp only [Finset.sum_mul, Finset.mul_sum]
  exact sum4_comm_congr fun _ _ _ _ => by ring

/-- the back transformation with the transposes undoes the sandwich -/
theorem unsandwich (S1 SS ρ : Mat α n)
    (h1 : ∀ x y, ∑ c, S1 c x * S1 c y = if x = y then 1 else 0)
    (h2 : ∀ x y, ∑ d, SS x d * SS y d = if x = y then 1 else 0) (c' d' : Fin n) :
    ∑ c, ∑ d, S1 c c' * (∑ x, S1 c x * ∑ y, ρ x y * SS y d) * SS d' d = ρ c' d' := by
  calc _ = ∑ x, ∑ y, ρ x y * (∑ d, SS d' d * SS y d) * (∑ c, S1 c c' * S1 c x) := by
        simp only [Finset.sum_mul, Finset.mul_sum]
        exact sum4_comm_congr fun _ _ _ _ => by ring
    _ = _ := by
        simp only [h1, h2, mul_ite, mul_one, mul_zero, ← ite_and]
        exact sum_sum_ite_and c' d' ρ

/-- the first pass commutes with the action on an operator -/
theorem first_pass (S1 SS : Mat α n) (R : Tens α n) (ρ : Mat α n) (a b : Fin n) :
    ∑ c', ∑ d', (∑ a', ∑ b', S1 a a' * R a' b' c' d' * SS b' b) * ρ c' d'
      = ∑ a', S1 a a' * ∑ b', (∑ c', ∑ d', R a' b' c' d' * ρ c' d') * SS b' b := by
  simp only [Finset.sum_mul, Finset.mul_sum]
  exact sum4_comm_congr fun _ _ _ _ => by ring

/-- **the transformed tensor acts in the new basis as the original acts in the old one** (orthogonal `S1 = SSᵀ`) -/
theorem transform_apply (S1 SS : Mat α n) (R : Tens α n) (ρ : Mat α n)
    (h1 : ∀ x y, ∑ c, S1 c x * S1 c y = if x = y then 1 else 0)
    (h2 : ∀ x y, ∑ d, SS x d * SS y d = if x = y then 1 else 0) :
    apply (transformTwoPass S1 SS R) (sandwich S1 SS ρ) = sandwich S1 SS (apply R ρ) := by
  funext a b
  simp only [apply, tensApply, transformTwoPass, sandwich, matMul, sumFin_eq_sum]
  rw [pass_to_operator]
  simp only [unsandwich S1 SS ρ h1 h2]
  exact first_pass S1 SS R ρ a b

/-- **operator form in the new basis ≡ transformed tensor form**: the operator-form action computed in the old
basis and carried over equals the action of the transformed explicit tensor on the transformed operator -/
theorem applyOps_transform (S1 SS K Kd L Ld ρ : Mat α n)
    (h1 : ∀ x y, ∑ c, S1 c x * S1 c y = if x = y then 1 else 0)
    (h2 : ∀ x y, ∑ d, SS x d * SS y d = if x = y then 1 else 0) :
    apply (transformTwoPass S1 SS (loopTerm K Kd L Ld)) (sandwich S1 SS ρ)
      = sandwich S1 SS (applyOps K Kd L Ld ρ) := by
  rw [transform_apply S1 SS _ ρ h1 h2, applyOps_eq_apply]

theorem transform_one (R : Tens α n) :
    transformTwoPass (fun i j => if i = j then (1 : α) else 0) (fun i j => if i = j then 1 else 0) R = R := by
  simp [transformTwoPass, sumFin_eq_sum]

/-- non-vacuity: the swap of two levels meets both hypotheses -/
example : ∀ x y : Fin 2, ∑ c : Fin 2, (if c.val + x.val = 1 then (1 : ℤ) else 0) * (if c.val + y.val = 1 then 1 else 0)
    = if x = y then 1 else 0 := by decide

end QV.Prop
