import QV.Lemmas.TruncBound

/-!
# C08 — refinement of the internal step when a pure-dephasing factor is applied after every step

With a Lorentzian pure-dephasing object the propagator multiplies, after every internal step of length `h`,
every matrix element by `exp(-γ_ij h)`.  As a superoperator this factor `D` is diagonal with entries in `(0,1]`,
so `‖D‖ ≤ 1` in the spectral norm (not in every submultiplicative norm; the theorems take it as a hypothesis).
`N` internal steps of the code are `(D · T_L(hG))^N`, within the *same* bound as without dephasing of the untruncated
`(D · exp(hG))^N`; the clause "refining the internal step changes U only within the truncation bound" is asserted per
refinement against that product.

What ties this to the code: `harness/c08.py` (`pure-dephasing:refine`) builds `D(h)` and `G` from the inputs,
takes `U(Δt)` from `EvolutionSuperOperator` and evaluates both sides of `dephased_steps_within_truncation_bound`
numerically (spectral norm; `‖D‖₂ = max exp(-γh) ≤ 1`).
-/
namespace QV.C08
open NormedSpace Finset

section
variable {𝔸 : Type} [NormedRing 𝔸] [NormOneClass 𝔸] [NormedAlgebra ℚ 𝔸] [CompleteSpace 𝔸]

theorem norm_exp_le_exp_norm (X : 𝔸) : ‖exp X‖ ≤ Real.exp ‖X‖ :=
  norm_exp_le X

theorem norm_dephased_le (D Y : 𝔸) (hD : ‖D‖ ≤ 1) (M : ℝ) (hY : ‖Y‖ ≤ M) : ‖D * Y‖ ≤ M :=
  (norm_mul_le D Y).trans ((mul_le_of_le_one_left (norm_nonneg Y) hD).trans hY)

theorem dephased_step_close (D X : 𝔸) (hD : ‖D‖ ≤ 1) (n : ℕ) :
    ‖D * taylorPoly n X - D * exp X‖ ≤ Real.exp ‖X‖ - ∑ k ∈ range n, ‖X‖ ^ k / k.factorial := by
  rw [← mul_sub]
  exact norm_dephased_le D _ hD _ ((norm_sub_rev _ _).trans_le (norm_exp_sub_taylor_le X n))

/-- **`m` dephased internal steps stay within the truncation bound of the expansion** -/
theorem dephased_steps_within_truncation_bound (D X : 𝔸) (hD : ‖D‖ ≤ 1) (n m : ℕ) :
    ‖(D * taylorPoly n X) ^ m - (D * exp X) ^ m‖ ≤
      m * Real.exp ‖X‖ ^ (m - 1) * (Real.exp ‖X‖ - ∑ k ∈ range n, ‖X‖ ^ k / k.factorial) := by
  calc _ ≤ m * Real.exp ‖X‖ ^ (m - 1) * ‖D * taylorPoly n X - D * exp X‖ :=
        norm_pow_sub_pow_le _ _ _ (norm_dephased_le D _ hD _ (norm_taylorPoly_le X n))
          (norm_dephased_le D _ hD _ (norm_exp_le_exp_norm X)) m
    _ ≤ _ := mul_le_mul_of_nonneg_left (dephased_step_close D X hD n) (by positivity)

/-- two refinements of one interval (`m₁` steps with `D₁, X₁`, `m₂` steps with `D₂, X₂`): the computed values differ by
at most the two truncation bounds plus the distance of the untruncated products -/
theorem refinement_with_dephasing (D₁ X₁ D₂ X₂ : 𝔸) (h₁ : ‖D₁‖ ≤ 1) (h₂ : ‖D₂‖ ≤ 1) (n m₁ m₂ : ℕ) :
    ‖(D₁ * taylorPoly n X₁) ^ m₁ - (D₂ * taylorPoly n X₂) ^ m₂‖ ≤
      m₁ * Real.exp ‖X₁‖ ^ (m₁ - 1) * (Real.exp ‖X₁‖ - ∑ k ∈ range n, ‖X₁‖ ^ k / k.factorial)
      + m₂ * Real.exp ‖X₂‖ ^ (m₂ - 1) * (Real.exp ‖X₂‖ - ∑ k ∈ range n, ‖X₂‖ ^ k / k.factorial)
      + ‖(D₁ * exp X₁) ^ m₁ - (D₂ * exp X₂) ^ m₂‖ := by
  have b1 := dephased_steps_within_truncation_bound D₁ X₁ h₁ n m₁
  have b2 := dephased_steps_within_truncation_bound D₂ X₂ h₂ n m₂
  -- triangle inequality through the two untruncated products
  have t1 := norm_sub_le_norm_sub_add_norm_sub ((D₁ * taylorPoly n X₁) ^ m₁) ((D₁ * exp X₁) ^ m₁)
    ((D₂ * taylorPoly n X₂) ^ m₂)
  have t2 := norm_sub_le_norm_sub_add_norm_sub ((D₁ * exp X₁) ^ m₁) ((D₂ * exp X₂) ^ m₂) ((D₂ * taylorPoly n X₂) ^ m₂)
  rw [norm_sub_rev ((D₂ * exp X₂) ^ m₂)] at t2
  linarith

/-- without dephasing (`D = 1`) the statement is the truncation bound of `TruncBound` -/
example (X : 𝔸) (n m : ℕ) :
    ‖(1 * taylorPoly n X) ^ m - (1 * exp X) ^ m‖ ≤
      m * Real.exp ‖X‖ ^ (m - 1) * (Real.exp ‖X‖ - ∑ k ∈ range n, ‖X‖ ^ k / k.factorial) :=
  dephased_steps_within_truncation_bound 1 X (by simp) n m
end

/-- non-vacuity: over the reals a factor `1/2` and the first-order polynomial -/
example : ‖((1 / 2 : ℝ) * taylorPoly 2 (1 : ℝ)) ^ 2 - ((1 / 2 : ℝ) * exp (1 : ℝ)) ^ 2‖ ≤
    (2 : ℕ) * Real.exp ‖(1 : ℝ)‖ ^ (2 - 1) * (Real.exp ‖(1 : ℝ)‖ - ∑ k ∈ range 2, ‖(1 : ℝ)‖ ^ k / k.factorial) :=
  dephased_steps_within_truncation_bound (1 / 2 : ℝ) 1 (by norm_num) 2 2

end QV.C08
