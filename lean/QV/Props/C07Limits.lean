import QV.Props.C07

/-!
# C07 — the limits of the time-dependent Redfield tensor
The time-dependent tensor is assembled at every time from `K` and `Λ(t) = ĉ(t)·K`, where `ĉ(t)` is the running
integral of the correlation function.  At the first time the integral is empty (`Λ = 0`), at the last time it is the
integral the time-independent tensor uses; the statements below are about the assembly, the two facts about the
integral are contracts of the spline antiderivative checked by the harness.
-/
namespace QV.Prop
open QV.C01

variable {α : Type} [CommRing α] {n : Nat}

/-- **the time-dependent tensor vanishes where `Λ` vanishes** (time zero), for every `K` -/
theorem tdTerm_zero (K : Mat α n) : tdTerm K (fun _ _ => 0) (fun _ _ => 0) = fun _ _ _ _ => (0 : α) := by
  funext a b c d
  simp [tdTerm, matMul, sumFin_eq_sum]

theorem tdTensor_zero (Ks : List (Mat α n)) :
    tdTensor (Ks.map (fun K => (K, (fun _ _ => (0 : α)), (fun _ _ => (0 : α))))) = fun _ _ _ _ => (0 : α) :=
  List.foldlRecOn (motive := (· = fun _ _ _ _ => (0 : α))) _ _ rfl fun R hR c hc => by
    obtain ⟨K, _, rfl⟩ := List.mem_map.mp hc
    simp only [hR, tdTerm_zero, add_zero]

/-- **with the same `Λ` the time-dependent element formula is the time-independent one** (symmetric `K`, as all
system-bath operators of the package are) -/
theorem tdTerm_eq_loopTerm (K L Ld : Mat α n) (hK : ∀ i j, K i j = K j i) :
    tdTerm K L Ld = loopTerm K (fun i j => K j i) L Ld :=
  -- `tdTerm K L Ld` is `loopTerm K K L Ld` by definition
  (funext₂ hK : K = fun i j => K j i) ▸ rfl

theorem tdTensor_eq_redfieldTensor (comps : List (Mat α n × Mat α n × Mat α n)) (hK : ∀ c ∈ comps, ∀ i j, c.1 i j = c.1 j i) :
    tdTensor comps = redfieldTensor comps :=
  List.foldl_ext _ _ _ fun _ c hc => by rw [tdTerm_eq_loopTerm c.1 c.2.1 c.2.2 (hK c hc)]

end QV.Prop
