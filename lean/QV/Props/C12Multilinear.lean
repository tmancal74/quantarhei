import QV.Props.C12Pref

/-!
# C12 — the orientational prefactor is multilinear in the four polarisation vectors

`pref_is_orientational_average` holds for *any* four polarisation vectors, not only unit vectors: the code computes
the average for the four-tuple it was given, so the prefactor is linear in every single polarisation vector (the 45°
polarisation written as `X+Y`, amplitudes folded into the vectors).  A set-up that normalised the vectors it is given
would not be (seeded change C12-11).
-/
namespace QV.C12

def setVec (e : Nat → Fin 3 → ℝ) (k : Nat) (w : Fin 3 → ℝ) : Nat → Fin 3 → ℝ := fun n => if n = k then w else e n

theorem dot3_smul_left (c : ℝ) (u v : Fin 3 → ℝ) : dot3 (fun i => c * u i) v = c * dot3 u v := by unfold dot3; ring
theorem dot3_smul_right (c : ℝ) (u v : Fin 3 → ℝ) : dot3 u (fun i => c * v i) = c * dot3 u v := by unfold dot3; ring
theorem dot3_add_left (u w v : Fin 3 → ℝ) : dot3 (fun i => u i + w i) v = dot3 u v + dot3 w v := by unfold dot3; ring
theorem dot3_add_right (u v w : Fin 3 → ℝ) : dot3 u (fun i => v i + w i) = dot3 u v + dot3 u w := by unfold dot3; ring

theorem pref_scale_all_fields (e d : Nat → Fin 3 → ℝ) (sign rho0 ev : ℝ) (c : Nat → ℝ) :
    pref m4Real sign rho0 ev (fun n i => c n * e n i) d = c 0 * c 1 * c 2 * c 3 * pref m4Real sign rho0 ev e d := by
  rw [pref_explicit, pref_explicit]
  simp only [dot3_smul_left, dot3_smul_right]
  ring

/-- **homogeneity**: one polarisation vector (any of the four) scaled by `c` scales the prefactor by `c` -/
theorem pref_scale_one_field (e d : Nat → Fin 3 → ℝ) (sign rho0 ev c : ℝ) (k : Nat) (hk : k < 4) :
    pref m4Real sign rho0 ev (setVec e k (fun i => c * e k i)) d = c * pref m4Real sign rho0 ev e d := by
  have h : setVec e k (fun i => c * e k i) = fun n i => (if n = k then c else 1) * e n i := by
    funext n i
    unfold setVec
    split_ifs with h <;> simp [h]
  rw [h, pref_scale_all_fields]
  rcases (by omega : k = 0 ∨ k = 1 ∨ k = 2 ∨ k = 3) with rfl | rfl | rfl | rfl <;> simp

/-- **additivity**: the prefactor for `e_k = u + w` is the sum of the prefactors for `u` and for `w` -/
theorem pref_add_one_field (e d : Nat → Fin 3 → ℝ) (sign rho0 ev : ℝ) (k : Nat) (hk : k < 4) (u w : Fin 3 → ℝ) :
    pref m4Real sign rho0 ev (setVec e k (fun i => u i + w i)) d
      = pref m4Real sign rho0 ev (setVec e k u) d + pref m4Real sign rho0 ev (setVec e k w) d := by
  rw [pref_explicit, pref_explicit, pref_explicit]
  -- the replaced vector stands in exactly one scalar product of each pairing; the scalar products stay atoms for `ring`
  rcases (by omega : k = 0 ∨ k = 1 ∨ k = 2 ∨ k = 3) with rfl | rfl | rfl | rfl <;>
    simp only [setVec, dot3_add_left, dot3_add_right, Nat.reduceEqDiff, ↓reduceIte] <;> ring

/-- non-vacuity: all four polarisations `2X` against `X`, dipoles along `X` (the first branch of the `if` is a no-op: it
returns the 0 the last would) -/
example : pref m4Real 1 1 1 (fun n i => if n = 1 ∧ i = 1 then (0 : ℝ) else if i = 0 then 2 else 0) (fun _ i => if i = 0 then 1 else 0)
    = 2 * 2 * 2 * 2 * pref m4Real 1 1 1 (fun n i => if n = 1 ∧ i = 1 then (0 : ℝ) else if i = 0 then 1 else 0) (fun _ i => if i = 0 then 1 else 0) := by
  rw [← pref_scale_all_fields _ _ _ _ _ fun _ => 2]
  congr 1
  funext n i
  split_ifs <;> simp

end QV.C12
