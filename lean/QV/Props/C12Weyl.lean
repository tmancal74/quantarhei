import Mathlib.Data.Real.Basic
import Mathlib.Data.Fin.VecNotation
import Mathlib.Data.Fintype.Basic
import Mathlib.Data.Fin.Basic
import Mathlib.Data.Fintype.Fin
import Mathlib.Tactic.Linarith

/-!
# C12 — rank-4 tensors invariant under the rotations of the cube
Products of the two quarter turns give the half turns about the three axes, which only change signs, and transpositions
of the index values without signs; `cubic_form` is read off from the invariance under these.
-/
namespace QV.C12

/-- quarter turn about z as a signed permutation: `(Q v)_i = εz i * v (σz i)` -/
def σz : Fin 3 → Fin 3 := ![1, 0, 2]
def εz : Fin 3 → ℝ := ![-1, 1, 1]
/-- quarter turn about x -/
def σx : Fin 3 → Fin 3 := ![0, 2, 1]
def εx : Fin 3 → ℝ := ![1, -1, 1]

/-- invariance of `t` under the signed permutation `(ε, σ)`; two such compose (`comp`) -/
def SignedInv (t : Fin 3 → Fin 3 → Fin 3 → Fin 3 → ℝ) (ε : Fin 3 → ℝ) (σ : Fin 3 → Fin 3) : Prop :=
  ∀ i j k l, t i j k l = ε i * ε j * ε k * ε l * t (σ i) (σ j) (σ k) (σ l)

theorem SignedInv.comp {t : Fin 3 → Fin 3 → Fin 3 → Fin 3 → ℝ} {σ σ' : Fin 3 → Fin 3} {ε ε' : Fin 3 → ℝ}
    (h : SignedInv t ε σ) (h' : SignedInv t ε' σ') : SignedInv t (fun i => ε i * ε' (σ i)) fun i => σ' (σ i) :=
  fun i j k l => (h i j k l).trans (by rw [h' (σ i) (σ j) (σ k) (σ l)]; ring1)

/-- sign of the component `i` of a vector under the half turn about the axis `a` -/
def halfTurn (a i : Fin 3) : ℤ := if i = a then 1 else -1

theorem σz_σz : ∀ i, σz (σz i) = i := by decide
theorem σx_σx : ∀ i, σx (σx i) = i := by decide
theorem εz_turn : ∀ i, εz i * εz (σz i) = halfTurn 2 i := by simp [Fin.forall_fin_succ, εz, σz, halfTurn]
theorem εx_turn : ∀ i, εx i * εx (σx i) = halfTurn 0 i := by simp [Fin.forall_fin_succ, εx, σx, halfTurn]
theorem halfTurn_mul : ∀ i, halfTurn 0 i * halfTurn 2 i = halfTurn 1 i := by decide
theorem halfTurn_εz : ∀ i, halfTurn 0 i * εz i = -1 := by simp [Fin.forall_fin_succ, εz, halfTurn]
theorem halfTurn_εx : ∀ i, halfTurn 1 i * εx i = -1 := by simp [Fin.forall_fin_succ, εx, halfTurn]

/-- four index values that do not fall into two pairs contain some value an odd number of times -/
theorem unpaired_odd : ∀ i j k l : Fin 3, ¬(i = j ∧ k = l) → ¬(i = k ∧ j = l) → ¬(i = l ∧ j = k) →
    ∃ a, halfTurn a i * halfTurn a j * halfTurn a k * halfTurn a l = -1 := by decide

theorem pair_form (u : Fin 3 → Fin 3 → ℝ) (hz : ∀ i k, u i k = u (σz i) (σz k)) (hx : ∀ i k, u i k = u (σx i) (σx k)) :
    ∀ i k, u i k = if i = k then u 0 0 else u 0 1 := by
  -- `σz` exchanges the values 0 and 1, `σx` 1 and 2; the instances handed to `simp` are the steps that carry every
  -- diagonal pair to `(0,0)` and every other to `(0,1)`: `22 → 11 → 00`, `21 → 12 → 02 → 01`, `20 → 10 → 01`
  simp [Fin.forall_fin_succ, hz 1 1, hx 2 2, hz 1 0, hx 0 2, hx 2 0, hz 1 2, hx 2 1, σz, σx]

/-- a rank-4 tensor invariant under the quarter turns about z and x has only the components `iijj`, `ijij`,
`ijji`, `iiii`, and each class has one value -/
theorem cubic_form (t : Fin 3 → Fin 3 → Fin 3 → Fin 3 → ℝ)
    (hz : ∀ i j k l, t i j k l = εz i * εz j * εz k * εz l * t (σz i) (σz j) (σz k) (σz l))
    (hx : ∀ i j k l, t i j k l = εx i * εx j * εx k * εx l * t (σx i) (σx j) (σx k) (σx l)) :
    ∀ i j k l, t i j k l = (if i = j ∧ k = l then t 0 0 1 1 else 0) + (if i = k ∧ j = l then t 0 1 0 1 else 0)
      + (if i = l ∧ j = k then t 0 1 1 0 else 0)
      + (if i = j ∧ j = k ∧ k = l then t 0 0 0 0 - t 0 0 1 1 - t 0 1 0 1 - t 0 1 1 0 else 0) := by
  have tx : SignedInv t (fun i => halfTurn 0 i) fun i => i := fun i j k l => by
    simpa only [σx_σx, εx_turn] using SignedInv.comp hx hx i j k l
  have tz : SignedInv t (fun i => halfTurn 2 i) fun i => i := fun i j k l => by
    simpa only [σz_σz, εz_turn] using SignedInv.comp hz hz i j k l
  have ty : SignedInv t (fun i => halfTurn 1 i) fun i => i := fun i j k l => by
    simpa only [← Int.cast_mul, halfTurn_mul] using SignedInv.comp tx tz i j k l
  -- composed with the half turns the quarter turns become transpositions of the index values, without signs
  have sz : ∀ i j k l, t i j k l = t (σz i) (σz j) (σz k) (σz l) := fun i j k l => by
    simpa only [halfTurn_εz, neg_neg, neg_mul, one_mul] using SignedInv.comp tx hz i j k l
  have sx : ∀ i j k l, t i j k l = t (σx i) (σx j) (σx k) (σx l) := fun i j k l => by
    simpa only [halfTurn_εx, neg_neg, neg_mul, one_mul] using SignedInv.comp ty hx i j k l
  have turn : ∀ a, SignedInv t (fun i => halfTurn a i) fun i => i := fun a => match a with | 0 => tx | 1 => ty | 2 => tz
  intro i j k l
  -- a paired component: its slice is invariant under both transpositions (`pair_form`)
  by_cases h1 : i = j ∧ k = l
  · obtain ⟨rfl, rfl⟩ := h1
    rw [pair_form (fun i k => t i i k k) (fun i k => sz i i k k) fun i k => sx i i k k]
    by_cases h : i = k <;> simp [h]
  by_cases h2 : i = k ∧ j = l
  · obtain ⟨rfl, rfl⟩ := h2
    rw [pair_form (fun i j => t i j i j) (fun i j => sz i j i j) fun i j => sx i j i j]
    by_cases h : i = j <;> simp [h]
  by_cases h3 : i = l ∧ j = k
  · obtain ⟨rfl, rfl⟩ := h3
    rw [pair_form (fun i j => t i j j i) (fun i j => sz i j j i) fun i j => sx i j j i]
    by_cases h : i = j <;> simp [h]
  -- otherwise the half turn about a value that occurs an odd number of times changes the sign
  obtain ⟨a, ha⟩ := unpaired_odd i j k l h1 h2 h3
  have e := turn a i j k l
  rw [show (halfTurn a i * halfTurn a j * halfTurn a k * halfTurn a l : ℝ) = -1 by exact_mod_cast ha] at e
  rw [if_neg h1, if_neg h2, if_neg h3, if_neg fun h => h1 ⟨h.1, h.2.2⟩]
  linarith

end QV.C12
