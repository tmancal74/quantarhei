import QV.Props.C12Weyl
import QV.Model.C12
import Mathlib.Algebra.BigOperators.Fin
import Mathlib.Algebra.BigOperators.Ring.Finset
import Mathlib.Tactic.Ring
import Mathlib.Tactic.LinearCombination
import Mathlib.Tactic.FinCases

/-!
# C12 — the orientational average of four field-dipole projections
For any functional with the properties listed in `RotationAverage` - nothing else about rotation averages is assumed -
the average of `R_{ia} R_{jb} R_{kc} R_{ld}` is `Σ_{αβ} I^α_{ijkl} M4_{αβ} I^β_{abcd}`: for fixed columns `abcd` its rows
`ijkl` are invariant under the three rotations, hence a combination of the isotropic tensors `I^α` (`weyl4`), which the
inverse `M4` of their Gram matrix recovers from its double contractions, `I^β_{abcd}` because `RᵀR = 1`.
-/
namespace QV.C12
open Finset

abbrev M3 := Fin 3 → Fin 3 → ℝ
abbrev T4 := Fin 3 → Fin 3 → Fin 3 → Fin 3 → ℝ

def mulM (A B : M3) : M3 := fun i j => ∑ k, A i k * B k j
def trM (Q : M3) : M3 := fun i j => Q j i
def IsOrtho (R : M3) : Prop := ∀ a b, ∑ i, R i a * R i b = if a = b then 1 else 0

def Qz : M3 := fun i p => if p = σz i then εz i else 0
def Qx : M3 := fun i p => if p = σx i then εx i else 0
/-- rotation about z by the angle with cos = 3/5, sin = 4/5 -/
noncomputable def Qr : M3 := ![![3/5, -4/5, 0], ![4/5, 3/5, 0], ![0, 0, 1]]

def rot4 (Q : M3) (t : T4) : T4 := fun i j k l => ∑ p, ∑ q, ∑ r, ∑ s, Q i p * Q j q * Q k r * Q l s * t p q r s

theorem rot4_signed (σ : Fin 3 → Fin 3) (ε : Fin 3 → ℝ) (t : T4) (i j k l : Fin 3) :
    rot4 (fun i p => if p = σ i then ε i else 0) t i j k l = ε i * ε j * ε k * ε l * t (σ i) (σ j) (σ k) (σ l) := by
  unfold rot4
  simp only [ite_mul, zero_mul, mul_ite, mul_zero, Finset.sum_ite_eq', Finset.mem_univ, if_true]

theorem inv_signed {σ : Fin 3 → Fin 3} {ε : Fin 3 → ℝ} {t : T4} (h : rot4 (fun i p => if p = σ i then ε i else 0) t = t) :
    SignedInv t ε σ := fun i j k l => by
  rw [← rot4_signed σ ε t, h]

theorem mulM_trM (R Q : M3) (i a : Fin 3) : mulM R (trM Q) i a = ∑ p, Q a p * R i p :=
  sum_congr rfl fun _ _ => mul_comm _ _

/-- the three isotropic tensors (real valued) -/
def isoR (α : Fin 3) (i j k l : Fin 3) : ℝ :=
  match α with
  | 0 => if i = j ∧ k = l then 1 else 0
  | 1 => if i = k ∧ j = l then 1 else 0
  | 2 => if i = l ∧ j = k then 1 else 0

def Inv4 (t : T4) : Prop := rot4 Qz t = t ∧ rot4 Qx t = t ∧ rot4 Qr t = t

def c4 (t : T4) (x y z w : Fin 3 → ℝ) : ℝ := ∑ i, ∑ j, ∑ k, ∑ l, (x i * y j * z k * w l) * t i j k l
def dotR (x y : Fin 3 → ℝ) : ℝ := ∑ i, x i * y i
/-- `e · (R d)`: projection of the rotated dipole on the field polarisation -/
def proj (e d : Fin 3 → ℝ) (R : M3) : ℝ := ∑ i, ∑ a, e i * R i a * d a

theorem c4_add (A B : T4) (x y z w : Fin 3 → ℝ) :
    c4 (fun i j k l => A i j k l + B i j k l) x y z w = c4 A x y z w + c4 B x y z w := by
  simp only [c4, mul_add, Finset.sum_add_distrib]

theorem c4_smul (m : ℝ) (A : T4) (x y z w : Fin 3 → ℝ) :
    c4 (fun i j k l => m * A i j k l) x y z w = m * c4 A x y z w := by
  simp only [c4, mul_sum, mul_left_comm _ m]

theorem c4_comb3 (m0 m1 m2 : ℝ) (A0 A1 A2 : T4) (x y z w : Fin 3 → ℝ) :
    c4 (fun i j k l => m0 * A0 i j k l + m1 * A1 i j k l + m2 * A2 i j k l) x y z w
      = m0 * c4 A0 x y z w + m1 * c4 A1 x y z w + m2 * c4 A2 x y z w := by
  rw [c4_add, c4_add, c4_smul, c4_smul, c4_smul]

theorem c4_mul_right (m : ℝ) (A : T4) (x y z w : Fin 3 → ℝ) :
    c4 (fun i j k l => A i j k l * m) x y z w = c4 A x y z w * m := by
  simp only [mul_comm _ m, c4_smul]

theorem c4_sum (A : Fin 3 → T4) (x y z w : Fin 3 → ℝ) :
    c4 (fun i j k l => ∑ α, A α i j k l) x y z w = ∑ α, c4 (A α) x y z w := by
  simp only [Fin.sum_univ_three, c4_add]

theorem c4_prod (u v p q x y z w : Fin 3 → ℝ) :
    c4 (fun i j k l => u i * v j * p k * q l) x y z w = dotR x u * dotR y v * dotR z p * dotR w q := by
  have e : ∀ i j k l, (x i * y j * z k * w l) * (u i * v j * p k * q l)
      = (x i * u i) * ((y j * v j) * ((z k * p k) * (w l * q l))) := fun i j k l => by ring
  simp only [c4, dotR, e, ← mul_sum, ← sum_mul]
  simp only [mul_assoc]

theorem sum_delta (f : T4) :
    (∑ i, ∑ j, ∑ k, ∑ l, f i j k l * isoR 0 i j k l = ∑ i, ∑ k, f i i k k)
    ∧ (∑ i, ∑ j, ∑ k, ∑ l, f i j k l * isoR 1 i j k l = ∑ i, ∑ j, f i j i j)
    ∧ (∑ i, ∑ j, ∑ k, ∑ l, f i j k l * isoR 2 i j k l = ∑ i, ∑ j, f i j j i) := by
  simp only [isoR, mul_ite, mul_one, mul_zero, ite_and, sum_ite_irrel, sum_const_zero, Fintype.sum_ite_eq, and_self]

theorem c4_iso (x y z w : Fin 3 → ℝ) :
    c4 (isoR 0) x y z w = dotR x y * dotR z w ∧ c4 (isoR 1) x y z w = dotR x z * dotR y w
    ∧ c4 (isoR 2) x y z w = dotR x w * dotR y z := by
  obtain ⟨h0, h1, h2⟩ := sum_delta fun i j k l => x i * y j * z k * w l
  simp only [c4, dotR, h0, h1, h2, sum_mul_sum]
  refine ⟨?_, ?_, ?_⟩ <;> exact sum_congr rfl fun i _ => sum_congr rfl fun k _ => by ring

/-- a tensor of the cubic form whose diagonal part vanishes is a combination of the three `δδ` tensors -/
theorem iso_of_cubic (t : T4) (h0 : t 0 0 0 0 - t 0 0 1 1 - t 0 1 0 1 - t 0 1 1 0 = 0)
    (cf : ∀ i j k l, t i j k l = (if i = j ∧ k = l then t 0 0 1 1 else 0) + (if i = k ∧ j = l then t 0 1 0 1 else 0)
      + (if i = l ∧ j = k then t 0 1 1 0 else 0)
      + (if i = j ∧ j = k ∧ k = l then t 0 0 0 0 - t 0 0 1 1 - t 0 1 0 1 - t 0 1 1 0 else 0)) (i j k l : Fin 3) :
    t i j k l = t 0 0 1 1 * isoR 0 i j k l + t 0 1 0 1 * isoR 1 i j k l + t 0 1 1 0 * isoR 2 i j k l := by
  rw [cf i j k l, h0]
  simp only [isoR, ite_self, add_zero, mul_ite, mul_one, mul_zero]

/-- **invariant rank-4 tensors are combinations of the three `δδ` tensors** (for invariance under the three
rotations above already) -/
theorem weyl4 (t : T4) (h : Inv4 t) :
    ∀ i j k l, t i j k l = t 0 0 1 1 * isoR 0 i j k l + t 0 1 0 1 * isoR 1 i j k l + t 0 1 1 0 * isoR 2 i j k l := by
  obtain ⟨hz, hx, hr⟩ := h
  have cf := cubic_form t (inv_signed hz) (inv_signed hx)
  refine iso_of_cubic t ?_ cf
  have E : rot4 Qr t 0 0 0 0 = t 0 0 0 0 := by rw [hr]
  generalize t 0 0 1 1 = a, t 0 1 0 1 = b, t 0 1 1 0 = c at cf ⊢
  generalize t 0 0 0 0 - a - b - c = e at cf ⊢
  -- with the cubic form under the sum and the deltas collapsed, `E` reads `(a + b + c) (u·u)² + e Σᵢ uᵢ⁴ = a + b + c + e`
  -- for the first row `u = (3/5, -4/5, 0)` of `Qr`, a unit vector with `(3/5)⁴ + (4/5)⁴ < 1`
  simp only [rot4, cf, mul_add, sum_add_distrib, mul_ite, mul_zero, ite_and, sum_ite_irrel, sum_const_zero,
    Fintype.sum_ite_eq, if_true] at E
  simp only [Qr, Fin.sum_univ_three, Matrix.cons_val_zero, Matrix.cons_val_one, Matrix.cons_val_two, Matrix.head_cons,
    Matrix.tail_cons] at E
  linear_combination (-625 / 288) * E

/-- `M4` of `LabSetup` in closed form; `pref_is_orientational_average` unfolds it against the extracted entries -/
noncomputable def m4R (α β : Fin 3) : ℝ := (if α = β then 4 else -1) / 30

/-- the Gram matrix of the isotropic tensors, as their double contractions -/
theorem isoR_contractions (α : Fin 3) :
    (∑ i, ∑ k, isoR α i i k k = if α = 0 then 9 else 3) ∧ (∑ i, ∑ j, isoR α i j i j = if α = 1 then 9 else 3)
    ∧ (∑ i, ∑ j, isoR α i j j i = if α = 2 then 9 else 3) := by
  fin_cases α <;> simp [isoR, ite_and] <;> norm_num

theorem inv4_of_contractions (t : T4) (h : Inv4 t) (S : Fin 3 → ℝ) (h0 : ∑ i, ∑ k, t i i k k = S 0)
    (h1 : ∑ i, ∑ j, t i j i j = S 1) (h2 : ∑ i, ∑ j, t i j j i = S 2) (i j k l : Fin 3) :
    t i j k l = ∑ α, ∑ β, m4R α β * isoR α i j k l * S β := by
  have w := weyl4 t h
  generalize t 0 0 1 1 = a, t 0 1 0 1 = b, t 0 1 1 0 = c at w
  simp only [w, sum_add_distrib, ← mul_sum, isoR_contractions, Fin.reduceEq, if_true, if_false] at h0 h1 h2
  -- now `h0 h1 h2 : G (a, b, c) = S`, `G` = 9 on, 3 off the diagonal, and `m4R` inverts `G`
  simp only [w, Fin.sum_univ_three, ← h0, ← h1, ← h2, m4R, Fin.reduceEq, if_true, if_false]
  ring

theorem ortho_contract (R : M3) (hR : IsOrtho R) (a b c d : Fin 3) :
    (∑ i, ∑ k, R i a * R i b * R k c * R k d) = (if a = b then 1 else 0) * (if c = d then 1 else 0)
    ∧ (∑ i, ∑ j, R i a * R j b * R i c * R j d) = (if a = c then 1 else 0) * (if b = d then 1 else 0)
    ∧ (∑ i, ∑ j, R i a * R j b * R j c * R i d) = (if a = d then 1 else 0) * (if b = c then 1 else 0) := by
  -- the three contractions of the columns `a b c d` of `R` with the `δδ` tensors
  obtain ⟨h0, h1, h2⟩ := sum_delta fun i j k l => R i a * R j b * R k c * R l d
  rw [← h0, ← h1, ← h2, ← hR, ← hR, ← hR, ← hR, ← hR, ← hR]
  exact c4_iso (R · a) (R · b) (R · c) (R · d)

section
variable {avg : (M3 → ℝ) → ℝ} (hadd : ∀ f g, avg (fun R => f R + g R) = avg f + avg g)
  (hsmul : ∀ (c : ℝ) f, avg (fun R => c * f R) = c * avg f)
include hadd hsmul

theorem linear_sum {ι : Type} (s : Finset ι) (f : ι → M3 → ℝ) :
    avg (fun R => ∑ x ∈ s, f x R) = ∑ x ∈ s, avg (f x) := by
  classical
  induction s using Finset.induction_on with
  | empty => simpa using hsmul 0 fun _ => 1
  | insert x s hx ih => simp only [Finset.sum_insert hx, hadd, ih]

/-- `x p R` is `R p a` for a rotation from the left, `R i p` for one from the right -/
theorem linear_rot4 (Q : M3) {x y z w : Fin 3 → M3 → ℝ} (i j k l : Fin 3) :
    avg (fun R => (∑ p, Q i p * x p R) * (∑ p, Q j p * y p R) * (∑ p, Q k p * z p R) * (∑ p, Q l p * w p R))
      = rot4 Q (fun p q r s => avg (fun R => x p R * y q R * z r R * w s R)) i j k l := by
  refine (congrArg avg (funext fun R => (c4_prod (x · R) (y · R) (z · R) (w · R) (Q i) (Q j) (Q k) (Q l)).symm)).trans ?_
  simp only [c4, rot4, linear_sum hadd hsmul, hsmul]

end

/-- what is assumed of "the average over all orientations" (the Haar average of SO(3), which has these properties for
every rotation): linear, normalised, blind outside the orthogonal matrices, and - on the products of four matrix
elements - invariant under the three rotations from the left and (their transposes) from the right.  The invariance from
the right is demanded but not needed for `orientational_average`: only `T8_right` and `T8_inv_cols` use it.

The invariance is NOT demanded for every function `M3 → ℝ`: the three rotations generate a subgroup of SO(3) that
contains a free group, so no finitely additive functional on *all* functions is invariant under it (Banach-Tarski);
demanded of the quartic monomials it is what the Haar integral, extended linearly to all functions in any way, provides. -/
structure RotationAverage (avg : (M3 → ℝ) → ℝ) : Prop where
  add : ∀ f g, avg (fun R => f R + g R) = avg f + avg g
  smul : ∀ (c : ℝ) f, avg (fun R => c * f R) = c * avg f
  one : avg (fun _ => 1) = 1
  supp : ∀ f g, (∀ R, IsOrtho R → f R = g R) → avg f = avg g
  left : ∀ Q, Q = Qz ∨ Q = Qx ∨ Q = Qr → ∀ i j k l a b c d,
    avg (fun R => mulM Q R i a * mulM Q R j b * mulM Q R k c * mulM Q R l d) = avg (fun R => R i a * R j b * R k c * R l d)
  right : ∀ Q, Q = Qz ∨ Q = Qx ∨ Q = Qr → ∀ i j k l a b c d,
    avg (fun R => mulM R (trM Q) i a * mulM R (trM Q) j b * mulM R (trM Q) k c * mulM R (trM Q) l d)
      = avg (fun R => R i a * R j b * R k c * R l d)

section
variable {avg : (M3 → ℝ) → ℝ} (ha : RotationAverage avg)
include ha

theorem avg_zero : avg (fun _ => 0) = 0 := by
  simpa using ha.smul 0 fun _ => 1

theorem avg_sum {ι : Type} (s : Finset ι) (f : ι → M3 → ℝ) :
    avg (fun R => ∑ x ∈ s, f x R) = ∑ x ∈ s, avg (f x) :=
  linear_sum ha.add ha.smul s f

theorem avg_const (c : ℝ) : avg (fun _ => c) = c := by
  simpa [ha.one] using ha.smul c fun _ => 1

theorem avg_sum2 (f : Fin 3 → Fin 3 → M3 → ℝ) :
    avg (fun R => ∑ i, ∑ k, f i k R) = ∑ i, ∑ k, avg (f i k) := by
  simp only [avg_sum ha]

theorem avg_sum4 (g : Fin 3 → Fin 3 → Fin 3 → Fin 3 → ℝ) (f : Fin 3 → Fin 3 → Fin 3 → Fin 3 → M3 → ℝ) :
    avg (fun R => ∑ p, ∑ q, ∑ r, ∑ s, g p q r s * f p q r s R) = ∑ p, ∑ q, ∑ r, ∑ s, g p q r s * avg (f p q r s) := by
  simp only [avg_sum ha, ha.smul]

def T8 (avg : (M3 → ℝ) → ℝ) (i j k l a b c d : Fin 3) : ℝ := avg (fun R => R i a * R j b * R k c * R l d)

theorem T8_left (Q : M3) (hQ : Q = Qz ∨ Q = Qx ∨ Q = Qr) (a b c d : Fin 3) :
    rot4 Q (fun i j k l => T8 avg i j k l a b c d) = fun i j k l => T8 avg i j k l a b c d := by
  funext i j k l
  exact (linear_rot4 ha.add ha.smul Q i j k l).symm.trans (ha.left Q hQ i j k l a b c d)

theorem T8_right (Q : M3) (hQ : Q = Qz ∨ Q = Qx ∨ Q = Qr) (i j k l : Fin 3) :
    rot4 Q (fun a b c d => T8 avg i j k l a b c d) = fun a b c d => T8 avg i j k l a b c d := by
  funext a b c d
  have h := ha.right Q hQ i j k l a b c d
  simp only [mulM_trM] at h
  exact (linear_rot4 ha.add ha.smul Q a b c d).symm.trans h

theorem T8_inv_rows (a b c d : Fin 3) : Inv4 (fun i j k l => T8 avg i j k l a b c d) :=
  ⟨T8_left ha Qz (Or.inl rfl) a b c d, T8_left ha Qx (Or.inr (Or.inl rfl)) a b c d, T8_left ha Qr (Or.inr (Or.inr rfl)) a b c d⟩
theorem T8_inv_cols (i j k l : Fin 3) : Inv4 (fun a b c d => T8 avg i j k l a b c d) :=
  ⟨T8_right ha Qz (Or.inl rfl) i j k l, T8_right ha Qx (Or.inr (Or.inl rfl)) i j k l, T8_right ha Qr (Or.inr (Or.inr rfl)) i j k l⟩

theorem avg_sum2_ortho (f : Fin 3 → Fin 3 → M3 → ℝ) (c : ℝ) (h : ∀ R, IsOrtho R → ∑ i, ∑ k, f i k R = c) :
    ∑ i, ∑ k, avg (f i k) = c := by
  rw [← avg_sum2 ha, ha.supp _ (fun _ => c) h, avg_const ha]

theorem T8_contractions (a b c d : Fin 3) :
    (∑ i, ∑ k, T8 avg i i k k a b c d) = (if a = b then 1 else 0) * (if c = d then 1 else 0)
    ∧ (∑ i, ∑ j, T8 avg i j i j a b c d) = (if a = c then 1 else 0) * (if b = d then 1 else 0)
    ∧ (∑ i, ∑ j, T8 avg i j j i a b c d) = (if a = d then 1 else 0) * (if b = c then 1 else 0) :=
  ⟨avg_sum2_ortho ha _ _ fun R hR => (ortho_contract R hR a b c d).1,
    avg_sum2_ortho ha _ _ fun R hR => (ortho_contract R hR a b c d).2.1,
    avg_sum2_ortho ha _ _ fun R hR => (ortho_contract R hR a b c d).2.2⟩

/-- **the averaged rotation tensor**: `⟨R_ia R_jb R_kc R_ld⟩ = Σ_{αβ} M4_{αβ} I^α_{ijkl} I^β_{abcd}` -/
theorem T8_eq (i j k l a b c d : Fin 3) :
    T8 avg i j k l a b c d = ∑ α, ∑ β, m4R α β * isoR α i j k l * isoR β a b c d := by
  obtain ⟨h0, h1, h2⟩ := T8_contractions ha a b c d
  rw [ite_zero_mul_ite_zero, mul_one] at h0 h1 h2  -- the right sides: `isoR 0/1/2 a b c d` unfolded
  exact inv4_of_contractions _ (T8_inv_rows ha a b c d) (isoR · a b c d) h0 h1 h2 i j k l

theorem T8_form : ∃ C : Fin 3 → Fin 3 → ℝ, ∀ i j k l a b c d,
    T8 avg i j k l a b c d = ∑ α, ∑ β, C α β * isoR α i j k l * isoR β a b c d :=
  ⟨m4R, T8_eq ha⟩

end

theorem proj_eq (e d : Fin 3 → ℝ) (R : M3) : proj e d R = dotR e fun i => dotR d (R i) := by
  simp only [proj, dotR, mul_sum]
  exact sum_congr rfl fun i _ => sum_congr rfl fun a _ => by ring

theorem prod_proj (e3 e2 e1 e0 d3 d2 d1 d0 : Fin 3 → ℝ) (R : M3) :
    proj e3 d3 R * proj e2 d2 R * proj e1 d1 R * proj e0 d0 R
      = c4 (fun i j k l => c4 (fun a b c d => R i a * R j b * R k c * R l d) d3 d2 d1 d0) e3 e2 e1 e0 := by
  simp only [c4_prod, proj_eq]

section
variable {avg : (M3 → ℝ) → ℝ} (ha : RotationAverage avg)
include ha

theorem avg_c4c4 (e3 e2 e1 e0 d3 d2 d1 d0 : Fin 3 → ℝ) :
    avg (fun R => c4 (fun i j k l => c4 (fun a b c d => R i a * R j b * R k c * R l d) d3 d2 d1 d0) e3 e2 e1 e0)
      = c4 (fun i j k l => c4 (fun a b c d => T8 avg i j k l a b c d) d3 d2 d1 d0) e3 e2 e1 e0 :=
  (avg_sum4 ha _ _).trans <|
    sum_congr rfl fun _ _ => sum_congr rfl fun _ _ => sum_congr rfl fun _ _ => sum_congr rfl fun _ _ =>
      congrArg _ (avg_sum4 ha _ _)

/-- the three pairings of four vectors numbered as in the source (`v 3`, `v 2`, `v 1`, `v 0`) -/
noncomputable def F4R (v3 v2 v1 v0 : Fin 3 → ℝ) (α : Fin 3) : ℝ :=
  match α with
  | 0 => dotR v3 v2 * dotR v1 v0
  | 1 => dotR v3 v1 * dotR v2 v0
  | 2 => dotR v3 v0 * dotR v2 v1

/-- **the orientational average of the product of the four field-dipole projections is `F4e · M4 · F4n`**, for
every four polarisations and every four dipoles -/
theorem orientational_average (e3 e2 e1 e0 d3 d2 d1 d0 : Fin 3 → ℝ) :
    avg (fun R => proj e3 d3 R * proj e2 d2 R * proj e1 d1 R * proj e0 d0 R)
      = ∑ α, ∑ β, F4R e3 e2 e1 e0 α * m4R α β * F4R d3 d2 d1 d0 β := by
  have F : ∀ (v3 v2 v1 v0 : Fin 3 → ℝ) α, c4 (fun i j k l => isoR α i j k l) v3 v2 v1 v0 = F4R v3 v2 v1 v0 α :=
    fun v3 v2 v1 v0 α => match α with
      | 0 => (c4_iso v3 v2 v1 v0).1 | 1 => (c4_iso v3 v2 v1 v0).2.1 | 2 => (c4_iso v3 v2 v1 v0).2.2
  simp only [prod_proj, avg_c4c4 ha, T8_eq ha, c4_sum, c4_smul, c4_mul_right, F]
  exact sum_congr rfl fun α _ => sum_congr rfl fun β _ => by ring

end
end QV.C12
