import QV.Model.C14
import Mathlib.Analysis.SpecialFunctions.Exponential
import Mathlib.LinearAlgebra.Matrix.PosDef
import Mathlib.Algebra.Order.Star.Real
import Mathlib.Algebra.BigOperators.Group.List.Basic
import Mathlib.Algebra.Order.BigOperators.Group.List
import Mathlib.Tactic.Ring
import Mathlib.Tactic.Linarith

/-!
# C14 — initial and thermal states are valid Boltzmann density matrices
`_thermal_population` subtracts the smallest energy before it exponentiates: every exponent is `≤ 0` and one is exactly
`0`, so the normalisation is `≥ 1` for any exponential that may underflow.
-/
namespace QV.C14

theorem minStep_eq : (fun m y : ℝ => if y < m then y else m) = min := by
  funext m y
  simp only [min_def, ← not_lt, ite_not]

theorem listMin_mem_le (l : List ℝ) (hl : l ≠ []) : listMin l ∈ l ∧ ∀ x ∈ l, listMin l ≤ x := by
  cases l with
  | nil => exact absurd rfl hl
  | cons a as =>
    -- `listMin (a :: as)` is the library's `(a :: as).min?`
    rw [listMin, minStep_eq]
    exact List.min?_eq_some_iff.1 List.min?_cons'

theorem plan_exponents (temp kBT : ℝ) (ht : temp ≠ 0) (hk : 0 < kBT) (diagH subtract : List ℝ) (start : Nat)
    (hne : (diagH.drop start).zipWith (· - ·) subtract ≠ []) :
    let p := thermalPlan temp kBT diagH subtract start
    p.zeroT = false ∧ (∀ x ∈ p.exps, x ≤ 0) ∧ (0 : ℝ) ∈ p.exps := by
  simp only [thermalPlan, ht, if_false]
  obtain ⟨hm, hle⟩ := listMin_mem_le _ hne
  exact ⟨trivial, List.forall_mem_map.2 fun e he => div_nonpos_of_nonpos_of_nonneg (by linarith [hle e he]) hk.le,
    List.mem_map.2 ⟨_, hm, by simp⟩⟩

/-- **no `0/0` at any positive temperature**: for ANY implementation `ef` of the exponential with `ef 0 = 1`
and `ef x ≥ 0` (it may underflow to `0` anywhere below zero), the normalisation of the shifted algorithm is `≥ 1` -/
theorem no_zero_division (ef : ℝ → ℝ) (h0 : ef 0 = 1) (hpos : ∀ x, 0 ≤ ef x) (xs : List ℝ) (hz : (0 : ℝ) ∈ xs) :
    1 ≤ (xs.map ef).sum := by
  rw [← h0]
  exact List.single_le_sum (List.forall_mem_map.2 fun z _ => hpos z) _ (List.mem_map_of_mem hz)

/-- without the shift the normalisation can be `0`: an `exp` that underflows below `−745` and optical
energies at a few kelvin (the former defect) -/
theorem unshifted_underflow_witness :
    ∃ (ef : ℝ → ℝ), ef 0 = 1 ∧ (∀ x, 0 ≤ ef x) ∧ (([-3000, -3100] : List ℝ).map ef).sum = 0 :=
  ⟨fun x => if x < -745 then 0 else 1, by norm_num, fun x => by dsimp only; split_ifs <;> norm_num, by norm_num⟩

/-- unit trace of the non-zero-temperature branch with the true `exp` (`T = 0`: `zero_temperature`) -/
theorem populations_sum_one (xs : List ℝ) (hne : xs ≠ []) :
    (populations Real.exp { zeroT := false, start := 0, exps := xs }).sum = 1 := by
  have hpos : 0 < (xs.map Real.exp).sum :=
    List.sum_pos _ (List.forall_mem_map.2 fun z _ => Real.exp_pos z) (by simpa using hne)
  simp only [populations, Bool.false_eq_true, if_false, div_eq_mul_inv]
  rw [List.sum_map_mul_right, List.map_id', mul_inv_cancel₀ hpos.ne']

/-- **populations are in the ratio `exp(−(E_a − E_b)/kT)`** (the common shift cancels) -/
theorem boltzmann_ratio (Ea Eb emin kBT Z : ℝ) (hZ : Z ≠ 0) :
    (Real.exp (-(Ea - emin) / kBT) / Z) / (Real.exp (-(Eb - emin) / kBT) / Z) = Real.exp (-(Ea - Eb) / kBT) := by
  rw [div_div_div_cancel_right₀ hZ, ← Real.exp_sub]
  congr 1; ring

theorem zero_temperature (kBT : ℝ) (diagH subtract : List ℝ) (start : Nat) :
    populations Real.exp (thermalPlan 0 kBT diagH subtract start) = [1] := by
  simp [thermalPlan, populations]

/-! Positive semidefiniteness: each of the three is a library lemma, stated for a shape in which the code forms a density
matrix; none mentions the model. -/
section
open Matrix
variable {n : Type} [Fintype n] [DecidableEq n]

theorem thermal_psd (p : n → ℝ) (hp : ∀ i, 0 ≤ p i) : (Matrix.diagonal p).PosSemidef :=
  Matrix.posSemidef_diagonal_iff.mpr hp

/-- impulsive excitation `|d| ρ |d|` -/
theorem impulsive_psd (ρ A : Matrix n n ℝ) (hρ : ρ.PosSemidef) : (A * ρ * Aᴴ).PosSemidef :=
  hρ.mul_mul_conjTranspose_same A

/-- the same state presented in another basis -/
theorem psd_basis_independent (ρ S : Matrix n n ℝ) (hρ : ρ.PosSemidef) : (Sᴴ * ρ * S).PosSemidef :=
  hρ.conjTranspose_mul_mul_same S
end

end QV.C14
