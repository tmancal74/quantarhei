import QV.Props.C12Average

/-!
# C12 — the prefactor computed by the code is the exact orientational average
`pref` with the extracted matrix, written out in the three pairings of the polarisations and of the dipoles
(`pref_explicit`), is compared with the closed formula of `orientational_average`.
-/
namespace QV.C12
open QV.Gen.C12

/-- `LabSetup.M4` over the reals, from the extracted numerators and denominator -/
noncomputable def m4Real : List (List ℝ) := m4num.map (fun (r : List Int) => r.map (fun (n : Int) => ((n : ℝ) / (m4den : ℝ))))

theorem m4Real_eq : m4Real = [[4/30, -1/30, -1/30], [-1/30, 4/30, -1/30], [-1/30, -1/30, 4/30]] := by
  simp [m4Real, m4num, m4den]

/-- `dotList (vecMat x M4) y` at the literal matrix, the one place where the two are unfolded -/
theorem model_bilinear (x0 x1 x2 y0 y1 y2 : ℝ) :
    dotList (vecMat [x0, x1, x2] [[4/30, -1/30, -1/30], [-1/30, 4/30, -1/30], [-1/30, -1/30, 4/30]]) [y0, y1, y2]
      = (x0 * (4/30) + x1 * (-1/30) + x2 * (-1/30)) * y0 + (x0 * (-1/30) + x1 * (4/30) + x2 * (-1/30)) * y1
        + (x0 * (-1/30) + x1 * (-1/30) + x2 * (4/30)) * y2 := by
  simp only [vecMat, dotList, List.range, List.range.loop, List.length, List.map, List.getD_cons_zero, List.getD_cons_succ,
    add_zero, add_assoc]

theorem pref_explicit (e d : Nat → Fin 3 → ℝ) (sign rho0 ev : ℝ) :
    pref m4Real sign rho0 ev e d
      = sign * (((dot3 (e 3) (e 2) * dot3 (e 1) (e 0) * (4/30) + dot3 (e 3) (e 1) * dot3 (e 2) (e 0) * (-1/30)
              + dot3 (e 3) (e 0) * dot3 (e 2) (e 1) * (-1/30)) * (dot3 (d 3) (d 2) * dot3 (d 1) (d 0))
          + (dot3 (e 3) (e 2) * dot3 (e 1) (e 0) * (-1/30) + dot3 (e 3) (e 1) * dot3 (e 2) (e 0) * (4/30)
              + dot3 (e 3) (e 0) * dot3 (e 2) (e 1) * (-1/30)) * (dot3 (d 3) (d 1) * dot3 (d 2) (d 0))
          + (dot3 (e 3) (e 2) * dot3 (e 1) (e 0) * (-1/30) + dot3 (e 3) (e 1) * dot3 (e 2) (e 0) * (-1/30)
              + dot3 (e 3) (e 0) * dot3 (e 2) (e 1) * (4/30)) * (dot3 (d 3) (d 0) * dot3 (d 2) (d 1))) * rho0) * ev := by
  rw [m4Real_eq]
  -- unifying unfolds `pref`; `f4 f4ePairs e`, `f4 f4nPairs d` are the three products by `rfl`
  exact congrArg (fun x => sign * (x * rho0) * ev) (model_bilinear ..)

section
variable {avg : (M3 → ℝ) → ℝ} (ha : RotationAverage avg)
include ha

/-- **the orientational prefactor of a Liouville pathway** - `sign · (F4eM4 · F4n) · ρ₀ · evolfac` with the
extracted `M4` and pairings - **is the sign, population and evolution factor times the exact average over all
orientations of the product of the four field-dipole projections** `(e₃·R d₃)(e₂·R d₂)(e₁·R d₁)(e₀·R d₀)` -/
theorem pref_is_orientational_average (e d : Nat → Fin 3 → ℝ) (sign rho0 ev : ℝ) :
    pref m4Real sign rho0 ev e d
      = sign * (avg (fun R => proj (e 3) (d 3) R * proj (e 2) (d 2) R * proj (e 1) (d 1) R * proj (e 0) (d 0) R) * rho0) * ev := by
  have hd : ∀ u v : Fin 3 → ℝ, dotR u v = dot3 u v := fun u v => Fin.sum_univ_three _
  rw [pref_explicit, orientational_average ha]
  simp only [Fin.sum_univ_three, F4R, m4R, hd, Fin.reduceEq, if_true, if_false]
  ring

end

end QV.C12
