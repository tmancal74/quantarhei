import QV.Props.C02

/-!
# C02 — pure dephasing keeps the state valid
The propagation with an elementwise dephasing factor after every refined step (`_APPLY_DEPH`; Lorentzian: a constant
matrix, Gaussian: `E0 ∘ Q^s` for the refined step number `s`) keeps whatever one refined step and one multiplication by
the factor keep: the trace when the factor has a unit diagonal (`γ_aa = 0`), Hermiticity when it is a Hermitian matrix
(real symmetric rates).
-/
namespace QV.Prop
open QV.C01

variable {n : Nat} {α : Type} [Field α]

/- `rdmPropagateDeph(G)` applies the factor between the refined steps, so it is no `taylorTrajectory`: the four
counterparts of `taylorTrajectory_inv`, by their own inductions -/

theorem dephG_inner_inv (gen : α → MatD α n n → MatD α n n) (E0 Q : Mat α n) (dt : α) (L Nref : Nat) (P : MatD α n n → Prop)
    (hstep : ∀ ρ, P ρ → P (taylorStep gen madd (dt / (Nref : α)) L ρ))
    (hfac : ∀ s ρ, P ρ → P (dephase (gaussFactor E0 Q s) ρ)) :
    ∀ k s ρ, P ρ → P (rdmPropagateDephG.inner gen E0 Q dt L Nref k s ρ) := by
  intro k s ρ h
  induction k generalizing s ρ with
  | zero => exact h
  | succ k ih => exact ih _ _ (hfac s _ (hstep ρ h))

theorem dephG_inv (gen : α → MatD α n n → MatD α n n) (E0 Q : Mat α n) (dt : α) (L Nref : Nat) (P : MatD α n n → Prop)
    (hstep : ∀ ρ, P ρ → P (taylorStep gen madd (dt / (Nref : α)) L ρ))
    (hfac : ∀ s ρ, P ρ → P (dephase (gaussFactor E0 Q s) ρ)) :
    ∀ nt s0 ρ0, P ρ0 → ∀ ρ ∈ rdmPropagateDephG gen E0 Q dt L Nref nt s0 ρ0, P ρ := by
  intro nt s0 ρ0 h0
  induction nt generalizing s0 ρ0 with
  | zero => exact fun _ h => nomatch h
  | succ nt ih =>
    exact List.forall_mem_cons.mpr ⟨h0, ih _ _ (dephG_inner_inv gen E0 Q dt L Nref P hstep hfac Nref s0 ρ0 h0)⟩

theorem deph_inner_inv (gen : α → MatD α n n → MatD α n n) (E : Mat α n) (dt : α) (L Nref : Nat) (P : MatD α n n → Prop)
    (hstep : ∀ ρ, P ρ → P (taylorStep gen madd (dt / (Nref : α)) L ρ)) (hfac : ∀ ρ, P ρ → P (dephase E ρ)) :
    ∀ k ρ, P ρ → P (rdmPropagateDeph.inner gen E dt L Nref k ρ) := by
  intro k ρ h
  induction k generalizing ρ with
  | zero => exact h
  | succ k ih => exact ih _ (hfac _ (hstep ρ h))

theorem deph_inv (gen : α → MatD α n n → MatD α n n) (E : Mat α n) (dt : α) (L Nref : Nat) (P : MatD α n n → Prop)
    (hstep : ∀ ρ, P ρ → P (taylorStep gen madd (dt / (Nref : α)) L ρ)) (hfac : ∀ ρ, P ρ → P (dephase E ρ)) :
    ∀ nt ρ0, P ρ0 → ∀ ρ ∈ rdmPropagateDeph gen E dt L Nref nt ρ0, P ρ := by
  intro nt ρ0 h0
  induction nt generalizing ρ0 with
  | zero => exact fun _ h => nomatch h
  | succ nt ih =>
    exact List.forall_mem_cons.mpr ⟨h0, ih _ (deph_inner_inv gen E dt L Nref P hstep hfac Nref ρ0 h0)⟩

theorem dephase_trace (E : Mat α n) (hE : ∀ a, E a a = 1) (ρ : MatD α n n) : trace (dephase E ρ).fn = trace ρ.fn := by
  simp only [dephase_fn, trace_eq, hE, mul_one]

theorem taylorStep_trace (ii : α) (H : Mat α n) (R : Tens α n) (hR : TraceFree R) (dtd : α) (L : Nat) (ρ : MatD α n n) :
    trace (taylorStep (genTensor ii H R) madd dtd L ρ).fn = trace ρ.fn :=
  taylorStep_conserved (genTensor ii H R) madd dtd (fun x => trace x.fn) madd_trace (genTensor_trace ii H R hR) L ρ

theorem gaussFactor_diag (E0 Q : Mat α n) (h0 : ∀ a, E0 a a = 1) (hQ : ∀ a, Q a a = 1) : ∀ s a, gaussFactor E0 Q s a a = 1 := by
  intro s a
  induction s with
  | zero => exact h0 a
  | succ s ih => simp only [gaussFactor, ih, hQ, mul_one]

/-- **unit trace with Lorentzian pure dephasing** (tensor form, trace-free tensor, no dephasing of populations) -/
theorem rdm_trace_conserved_deph (ii : α) (H : Mat α n) (R : Tens α n) (hR : TraceFree R) (E : Mat α n) (hE : ∀ a, E a a = 1)
    (dt : α) (L Nref nt : Nat) (ρ0 : MatD α n n) :
    ∀ ρ ∈ rdmPropagateDeph (genTensor ii H R) E dt L Nref nt ρ0, trace ρ.fn = trace ρ0.fn :=
  deph_inv _ E dt L Nref (fun ρ => trace ρ.fn = trace ρ0.fn)
    (fun ρ h => (taylorStep_trace ii H R hR _ L ρ).trans h) (fun ρ h => (dephase_trace E hE ρ).trans h) nt ρ0 rfl

/-- **unit trace with Gaussian pure dephasing** -/
theorem rdm_trace_conserved_gauss (ii : α) (H : Mat α n) (R : Tens α n) (hR : TraceFree R) (E0 Q : Mat α n)
    (h0 : ∀ a, E0 a a = 1) (hQ : ∀ a, Q a a = 1) (dt : α) (L Nref nt s0 : Nat) (ρ0 : MatD α n n) :
    ∀ ρ ∈ rdmPropagateDephG (genTensor ii H R) E0 Q dt L Nref nt s0 ρ0, trace ρ.fn = trace ρ0.fn :=
  dephG_inv _ E0 Q dt L Nref (fun ρ => trace ρ.fn = trace ρ0.fn)
    (fun ρ h => (taylorStep_trace ii H R hR _ L ρ).trans h)
    (fun s ρ h => (dephase_trace _ (gaussFactor_diag E0 Q h0 hQ s) ρ).trans h) nt s0 ρ0 rfl

section star
variable [StarRing α]

theorem dephase_dagger (E : Mat α n) (hE : ∀ a b, star (E b a) = E a b) (ρ : MatD α n n) (h : dagger ρ = ρ) :
    dagger (dephase E ρ) = dephase E ρ :=
  -- a Hermitian factor commutes with conjugation: `dagger (dephase E ρ) = dephase E (dagger ρ)`
  (MatD.ext_of_fn (by simp only [dagger_fn, dephase_fn, star_mul', hE])).trans (congrArg (dephase E) h)

theorem gaussFactor_herm (E0 Q : Mat α n) (h0 : ∀ a b, star (E0 b a) = E0 a b) (hQ : ∀ a b, star (Q b a) = Q a b) :
    ∀ s a b, star (gaussFactor E0 Q s b a) = gaussFactor E0 Q s a b := by
  intro s a b
  induction s with
  | zero => exact h0 a b
  | succ s ih => simp only [gaussFactor, star_mul', ih, hQ]

theorem taylorStep_dagger (ii : α) (hi : star ii = -ii) (H : Mat α n) (hH : ∀ i j, star (H i j) = H j i)
    (R : Tens α n) (hR : HermPres R) (dtd : α) (hdt : star dtd = dtd) (L : Nat) (ρ : MatD α n n) (h : dagger ρ = ρ) :
    dagger (taylorStep (genTensor ii H R) madd dtd L ρ) = taylorStep (genTensor ii H R) madd dtd L ρ := by
  rw [taylorStep_commute_dt (genTensor ii H R) madd dtd dagger dagger_madd
    (fun l x => genTensor_dagger ii hi H hH R hR _ (by rw [star_div₀, hdt, star_natCast]) x), h]

/-- **Hermiticity with Gaussian pure dephasing** (Lorentzian: `rdm_herm_preserved_deph`); `hdt`: the refined step is
real, which `star dt = dt` implies -/
theorem rdm_herm_preserved_gauss (ii : α) (hi : star ii = -ii) (H : Mat α n) (hH : ∀ i j, star (H i j) = H j i)
    (R : Tens α n) (hR : HermPres R) (E0 Q : Mat α n) (h0 : ∀ a b, star (E0 b a) = E0 a b) (hQ : ∀ a b, star (Q b a) = Q a b)
    (dt : α) (Nref : Nat) (hdt : star (dt / (Nref : α)) = dt / (Nref : α)) (L nt s0 : Nat) (ρ0 : MatD α n n) (hρ : dagger ρ0 = ρ0) :
    ∀ ρ ∈ rdmPropagateDephG (genTensor ii H R) E0 Q dt L Nref nt s0 ρ0, dagger ρ = ρ :=
  dephG_inv _ E0 Q dt L Nref (fun ρ => dagger ρ = ρ)
    (taylorStep_dagger ii hi H hH R hR _ hdt L)
    (fun s => dephase_dagger _ (gaussFactor_herm E0 Q h0 hQ s)) nt s0 ρ0 hρ

theorem rdm_herm_preserved_deph (ii : α) (hi : star ii = -ii) (H : Mat α n) (hH : ∀ i j, star (H i j) = H j i)
    (R : Tens α n) (hR : HermPres R) (E : Mat α n) (hE : ∀ a b, star (E b a) = E a b)
    (dt : α) (Nref : Nat) (hdt : star (dt / (Nref : α)) = dt / (Nref : α)) (L nt : Nat) (ρ0 : MatD α n n) (hρ : dagger ρ0 = ρ0) :
    ∀ ρ ∈ rdmPropagateDeph (genTensor ii H R) E dt L Nref nt ρ0, dagger ρ = ρ :=
  deph_inv _ E dt L Nref (fun ρ => dagger ρ = ρ)
    (taylorStep_dagger ii hi H hH R hR _ hdt L) (dephase_dagger E hE) nt ρ0 hρ
end star

end QV.Prop
