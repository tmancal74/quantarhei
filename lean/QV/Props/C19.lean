import QV.Model.C19
import Mathlib.Algebra.BigOperators.Group.List.Basic
import Mathlib.Data.List.Perm.Basic
import Mathlib.Data.List.Nodup
import Mathlib.Tactic.Ring
import Mathlib.Tactic.SplitIfs

/-!
# C19 — two-dimensional response storage conserves what was added
Theorems about the model `QV.C19` whose tables are re-extracted from
`quantarhei/spectroscopy/twod2.py` on every run.  Under the invariant `WF` an accepted `_add_data` is one `setKey`
(`addCore_eq`) and an elementary conversion keeps `sumAll` (`convElem_ok`); `content` is `sumAll` once the store is
initialised, and `read_total` reads it back.
-/
namespace QV.C19
open QV.Gen.C19

/-- every pathway type belongs to exactly one process -/
theorem processes_partition_types : (processes.flatMap (·.2)).Perm ptypes := by decide
/-- every pathway type belongs to exactly one signal -/
theorem signals_partition_types : (signals.flatMap (·.2)).Perm ptypes := by decide
theorem ptypes_nodup : ptypes.Nodup := by decide
theorem process_names_nodup : (processes.map (·.1)).Nodup := by decide
theorem signal_names_nodup : (signals.map (·.1)).Nodup := by decide
theorem total_is_fresh : total ∉ ptypes ∧ processes.lookup total = none ∧ signals.lookup total = none
    ∧ total ∉ processes.map (·.1) ∧ total ∉ signals.map (·.1) := by decide
theorem paths_only_downward : ∀ p ∈ convPaths, p.2.1 < p.1 ∧ p.2.2.head? = some p.1 ∧
    p.2.2.getLast? = some p.2.1 ∧ p.2.2.Pairwise (· > ·) := by decide

section
variable {V : Type} [AddCommMonoid V]

theorem sumAll_eq_sumWhere (cells : List (Key × V)) : sumAll cells = sumWhere (fun _ => true) cells := by
  simp [sumAll, sumWhere]

theorem sumWhere_cons (p : Key → Bool) (c : Key × V) (cs : List (Key × V)) :
    sumWhere p (c :: cs) = (if p c.1 then c.2 else 0) + sumWhere p cs := by
  unfold sumWhere
  by_cases h : p c.1 <;> simp [h]

theorem sumWhere_append (p : Key → Bool) (a b : List (Key × V)) :
    sumWhere p (a ++ b) = sumWhere p a + sumWhere p b := by
  simp [sumWhere]

theorem sumWhere_eq_zero (p : Key → Bool) (cells : List (Key × V)) (h : ∀ c ∈ cells, p c.1 = false) :
    sumWhere p cells = 0 := by
  unfold sumWhere
  rw [List.filter_eq_nil_iff.mpr (fun c hc => by simp [h c hc])]
  rfl

theorem sumName_cons (n : String) (c : Key × V) (cs : List (Key × V)) :
    sumName n (c :: cs) = (if c.1.name = n then c.2 else 0) + sumName n cs := by
  unfold sumName; rw [sumWhere_cons]; simp

theorem sumName_eq_zero (n : String) (cells : List (Key × V)) (h : ∀ c ∈ cells, c.1.name ≠ n) :
    sumName n cells = 0 :=
  sumWhere_eq_zero _ cells fun c hc => beq_false_of_ne (h c hc)

theorem sum_map_ite_eq (ns : List String) (hnd : ns.Nodup) (a : String) (ha : a ∈ ns) (v : V) :
    (ns.map (fun n => if a = n then v else 0)).sum = v := by
  rw [List.sum_map_eq_nsmul_single a _ (fun n hn _ => if_neg (Ne.symm hn)),
    List.count_eq_one_of_mem hnd ha, one_nsmul, if_pos rfl]

theorem sum_map_sumName (ns : List String) (hnd : ns.Nodup) (cells : List (Key × V))
    (hall : ∀ c ∈ cells, c.1.name ∈ ns) :
    (ns.map (fun n => sumName n cells)).sum = sumAll cells := by
  induction cells with
  | nil => simp [sumName, sumWhere, sumAll]
  | cons c cs ih =>
    rw [List.forall_mem_cons] at hall
    simp only [sumName_cons, List.sum_map_add, sum_map_ite_eq ns hnd c.1.name hall.1, ih hall.2]
    rfl

/-- `p`: any view that singles out `k` among the keys present, as `sumName n` does for `⟨n, none⟩` among untagged names -/
theorem lookupD_eq_sumWhere (cells : List (Key × V)) (hnd : (cells.map (·.1)).Nodup) (k : Key)
    (p : Key → Bool) (hp : ∀ c ∈ cells, p c.1 = (c.1 == k)) : lookupD k cells = sumWhere p cells := by
  unfold lookupD
  fun_induction lookup k cells with
  | case1 => rfl
  | case2 v rest =>
    have hz : sumWhere p rest = 0 := sumWhere_eq_zero p rest fun c hc => (hp c (.tail _ hc)).trans
      (beq_false_of_ne fun e => (List.nodup_cons.mp hnd).1 (List.mem_map.mpr ⟨c, hc, e⟩))
    simp [sumWhere_cons, hp _ (.head _), hz]
  | case3 k' v rest h ih =>
    simp [sumWhere_cons, hp _ (.head _), h, ih (List.nodup_cons.mp hnd).2 fun c hc => hp c (.tail _ hc)]

theorem lookupD_eq_sumName (cells : List (Key × V)) (hnd : (cells.map (·.1)).Nodup)
    (htag : ∀ c ∈ cells, c.1.tag = none) (n : String) :
    lookupD ⟨n, none⟩ cells = sumName n cells :=
  lookupD_eq_sumWhere cells hnd _ _ fun c hc => by
    obtain ⟨⟨nm, tg⟩, v⟩ := c
    have : tg = none := htag _ hc
    simp [this]

theorem rowSum_flatMap (table : List (String × List String)) (f : String → V) :
    (table.map (fun p => (p.2.map f).sum)).sum = ((table.flatMap (·.2)).map f).sum := by
  induction table with
  | nil => simp
  | cons p ps ih => simp [ih]

theorem table_sum (table : List (String × List String)) (hp : (table.flatMap (·.2)).Perm ptypes)
    (f : String → V) : (table.map (fun p => (p.2.map f).sum)).sum = (ptypes.map f).sum := by
  rw [rowSum_flatMap]
  exact (hp.map f).sum_eq

/-- Python's `storage[k] = storage.get(k, 0) + d` adds `d` to every view containing `k` and to no other -/
theorem sumWhere_setKey (p : Key → Bool) (k : Key) (d : V) (cells : List (Key × V)) :
    sumWhere p (setKey k (lookupD k cells + d) cells) = sumWhere p cells + (if p k then d else 0) := by
  unfold lookupD
  fun_induction lookup k cells with
  | case1 => by_cases h : p k <;> simp [setKey, sumWhere, h]
  | case2 v rest =>
    simp only [Option.getD_some, setKey, if_true, sumWhere_cons]
    split_ifs <;> simp [add_right_comm]
  | case3 k' v rest h ih => simp only [setKey, if_neg h, sumWhere_cons, ih, add_assoc]

omit [AddCommMonoid V] in
theorem setKey_of_lookup_none (k : Key) (v : V) (cells : List (Key × V)) (h : lookup k cells = none) :
    setKey k v cells = cells ++ [(k, v)] := by
  fun_induction setKey k v cells <;> simp_all [lookup]

theorem setKey_keys (k : Key) (v : V) (cells : List (Key × V)) :
    (setKey k v cells).map (·.1) =
      if k ∈ cells.map (·.1) then cells.map (·.1) else cells.map (·.1) ++ [k] := by
  fun_induction setKey k v cells <;> grind

theorem setKey_mem (k : Key) (v : V) (cells : List (Key × V)) (c : Key × V)
    (hc : c ∈ setKey k v cells) : c.1 = k ∨ c ∈ cells := by
  fun_induction setKey k v cells <;> grind

/-- what `_add_data`/`set_resolution` maintain; `low`: below pathway level the store is a dictionary of untagged names -/
structure WF (s : St V) : Prop where
  res_le : s.res ≤ 4
  names : ∀ c ∈ s.cells, c.1.name ∈ levelNames s.res
  low : s.res < 4 → (s.cells.map (·.1)).Nodup ∧ ∀ c ∈ s.cells, c.1.tag = none

theorem levelNames_nodup (r : Nat) : (levelNames r).Nodup := by
  fun_cases levelNames r
  exacts [ptypes_nodup, process_names_nodup, signal_names_nodup, List.nodup_singleton _]

omit [AddCommMonoid V] in
/-- covers the empty store and what a reduction writes -/
theorem WF_of_keys (r : Nat) (hr : r ≤ 4) (i : Bool) (c : List (Key × V))
    (hk : (c.map (·.1)).Sublist ((levelNames r).map (⟨·, none⟩))) : WF ⟨r, i, c⟩ := by
  have hc : ∀ x ∈ c, x.1.name ∈ levelNames r ∧ x.1.tag = none := fun x hx => by
    obtain ⟨n, hn, e⟩ := List.mem_map.mp (hk.subset (List.mem_map_of_mem hx))
    exact e ▸ ⟨hn, rfl⟩
  exact ⟨hr, fun x hx => (hc x hx).1, fun _ =>
    ⟨hk.nodup ((levelNames_nodup r).map fun a b e => (Key.mk.inj e).1), fun x hx => (hc x hx).2⟩⟩

theorem WF_fresh : WF (fresh : St V) := WF_of_keys 4 (by decide) false [] (List.nil_sublist _)

theorem WF_put (s : St V) (hw : WF s) (k : Key) (v : V) (hn : k.name ∈ levelNames s.res)
    (ht : s.res < 4 → k.tag = none) : WF { s with cells := setKey k v s.cells } := by
  have hm := setKey_mem k v s.cells
  refine ⟨hw.res_le, fun c hc => (hm c hc).elim (· ▸ hn) (hw.names c), fun hlt =>
    ⟨?_, fun c hc => (hm c hc).elim (· ▸ ht hlt) ((hw.low hlt).2 c)⟩⟩
  rw [setKey_keys]
  split_ifs with hk
  · exact (hw.low hlt).1
  · exact List.nodup_append_comm.mp (List.nodup_cons.mpr ⟨hk, (hw.low hlt).1⟩)

theorem WF_setKey (s : St V) (hw : WF s) (name : String) (v : V) (hn : name ∈ levelNames s.res) :
    WF { s with cells := setKey ⟨name, none⟩ v s.cells } :=
  WF_put s hw ⟨name, none⟩ v hn fun _ => rfl

theorem resIdx_le (r : String) (i : Nat) (h : resIdx r = some i) : i ≤ 4 := by
  have hl : resolutions.length = 5 := by decide
  obtain ⟨hi, _⟩ := List.findIdx?_eq_some_iff_getElem.mp h
  omega

theorem WF_initStep (s : St V) (hw : WF s) (r : Option String) : WF (initStep s r) := by
  fun_cases initStep s r
  · exact hw
  · refine WF_of_keys _ ?_ _ _ (List.nil_sublist _)
    cases r with
    | none => exact hw.res_le
    | some r =>
      show (resIdx r).getD s.res ≤ 4
      cases hr : resIdx r
      exacts [hw.res_le, resIdx_le r _ hr]

theorem rowSumKeys_eq (s : St V) (hw : WF s) (hlt : s.res < 4) (ts : List String) :
    rowSumKeys ts s.cells = (ts.map (fun t => sumName t s.cells)).sum :=
  congrArg List.sum
    (List.map_congr_left fun t _ => lookupD_eq_sumName s.cells (hw.low hlt).1 (hw.low hlt).2 t)

theorem WF.names_total {s : St V} (hw : WF s) : rowSumNames (levelNames s.res) s.cells = sumAll s.cells :=
  sum_map_sumName _ (levelNames_nodup _) s.cells hw.names

theorem WF.table_total {s : St V} (hw : WF s) (h : s.res = 3) (table : List (String × List String))
    (hp : (table.flatMap (·.2)).Perm ptypes) :
    (table.map fun p => rowSumKeys p.2 s.cells).sum = sumAll s.cells := by
  simp only [rowSumKeys_eq s hw (by omega)]
  rw [← hw.names_total, h]
  exact table_sum table hp _

/-- what the setter is handed, `odata + data`, is the addressed entry (zeros if absent) plus `d`.  At pathway
level (`h`) only for a tag that is not there yet: the setter takes no other, and the untagged read returns the sum
of the whole type -/
theorem readFlag_addTo (s : St V) (name : String) (tag : Option String) (d : V) (hn : name ∈ levelNames s.res)
    (h : s.res = 4 → tag ≠ none ∧ lookup ⟨name, tag⟩ s.cells = none) :
    (readFlag s name tag).addTo d = lookupD ⟨name, if s.res = 4 then tag else none⟩ s.cells + d := by
  -- `hn` decides the first test on `name` (at levels 4 and 3 `levelNames` is `ptypes`), so the reads of a process, a
  -- signal or the total never arise; at level 4 `h` leaves "type absent" (`.val 0`) and "tag absent" (`.error`), and
  -- `addTo` makes `d` of both
  fun_cases readFlag s name tag <;> simp_all [Out.addTo, lookupD, levelNames]

omit [AddCommMonoid V] in
/-- the setter is a `setKey` also at pathway level, where it appends: it refuses a tag that is there already -/
theorem setFlag_eq (s s2 : St V) (name : String) (tag : Option String) (v : V)
    (h : setFlag s name tag v = some s2) :
    name ∈ levelNames s.res ∧ (s.res = 4 → lookup ⟨name, tag⟩ s.cells = none) ∧
      s2 = { s with cells := setKey ⟨name, if s.res = 4 then tag else none⟩ v s.cells } := by
  revert h
  fun_cases setFlag s name tag v <;> intro h <;> cases h
  · -- level 4: appended, a `setKey` as the key is absent (`hl`)
    next hn h4 hl => exact ⟨hn, fun _ => hl, by rw [if_pos h4, setKey_of_lookup_none _ _ _ hl]⟩
  · -- below: `setKey`
    next hn h4 => exact ⟨hn, fun e => absurd e h4, by rw [if_neg h4]⟩

/-- getter-then-setter is `storage[k] = storage.get(k, 0) + d`, except (`hx`) for the untagged read of a pathway store.
`tag'` is the tag the cell is filed under, in the form the caller has at hand -/
theorem getset_eq (s1 s2 : St V) (name : String) (tag : Option String) (d : V)
    (hx : name ∈ levelNames s1.res → s1.res = 4 → tag ≠ none) (h : getset s1 name tag d = some s2)
    (tag' : Option String) (hk : tag' = if s1.res = 4 then tag else none) :
    name ∈ levelNames s1.res ∧
      s2 = { s1 with cells := setKey ⟨name, tag'⟩ (lookupD ⟨name, tag'⟩ s1.cells + d) s1.cells } := by
  obtain ⟨hn, hl, e⟩ := setFlag_eq s1 s2 name tag _ h
  rw [e, readFlag_addTo s1 name tag d hn fun h4 => ⟨hx hn h4, hl h4⟩, hk]
  exact ⟨hn, rfl⟩

theorem getset_sum (p : Key → Bool) (s1 s2 : St V) (name : String) (tag : Option String) (d : V)
    (hx : ¬ (s1.res = 4 ∧ tag = none))
    (h : getset s1 name tag d = some s2) :
    s2.res = s1.res ∧ s2.init = s1.init ∧
    sumWhere p s2.cells = sumWhere p s1.cells +
      (if p ⟨name, if s1.res = 4 then tag else none⟩ then d else 0) := by
  rw [(getset_eq s1 s2 name tag d (fun _ h4 e => hx ⟨h4, e⟩) h _ rfl).2]
  exact ⟨rfl, rfl, sumWhere_setKey p _ d _⟩

theorem low_names_not_types : ∀ r ∈ [0, 1, 2], ∀ n ∈ levelNames r, n ∉ ptypes := by decide

/-- **`_add_data` on an initialised storage**: refused, it changes nothing; accepted, it is the dictionary
assignment `storage[(name, tag)] = storage.get((name, tag), 0) + d` to an addressable cell, untagged below
pathway level -/
theorem addCore_eq (s1 s2 : St V) (r : Option String) (name : String) (tag : Option String) (d : V)
    (ok : Bool) (hres : s1.res ≤ 4) (h : addCore s1 r name tag d = (s2, ok)) :
    s2 = (if ok then { s1 with cells := setKey ⟨name, tag⟩ (lookupD ⟨name, tag⟩ s1.cells + d) s1.cells } else s1) ∧
    (ok = true → name ∈ levelNames s1.res ∧ (s1.res < 4 → tag = none)) := by
  revert h
  fun_cases addCore s1 r name tag d <;> intro h <;> cases h
  case case4 lev _ hgt hmem hbad hf9 =>
    -- `r = 3 ∧ s1.res = 4` (`hf9`), type-level data into a pathway store: accumulated in the None-tagged cell
    obtain rfl : tag = none := Option.not_isSome_iff_eq_none.mp fun h => hbad (.inr ⟨by omega, h⟩)
    exact ⟨rfl, fun _ => ⟨by simpa [levelNames, hf9.1, hf9.2] using hmem, fun _ => rfl⟩⟩
  case case5 lev _ hgt hmem hbad hf9 hg =>
    -- `getset … = some s2` (`hg`): getter, then setter
    have ht : s1.res < 4 → tag = none := fun hl =>
      Option.not_isSome_iff_eq_none.mp fun h => hbad (.inr ⟨by omega, h⟩)
    -- an untagged addition that gets here is below type level, so `name` is no pathway type,
    -- and a pathway store takes no other name
    have hx : name ∈ levelNames s1.res → s1.res = 4 → tag ≠ none := fun hn h4 h0 => by
      subst h0
      have : lev ≠ 4 := fun e => hbad (.inl ⟨e, rfl⟩)
      exact low_names_not_types lev (by simp; omega) name hmem (by simpa [levelNames, h4] using hn)
    obtain ⟨hn, e⟩ := getset_eq s1 s2 name tag d hx hg tag (by split_ifs with h4; exacts [rfl, ht (by omega)])
    exact ⟨e, fun _ => ⟨hn, ht⟩⟩
  -- the five refusals: unknown resolution, one above the store's, tag and level that do not go together, the setter
  -- raised, a name not of that level
  all_goals exact ⟨rfl, nofun⟩

/-- **a refused `_add_data` leaves the storage unchanged; an accepted one adds `d` to the addressed cell only**
(`p` is any view = any set of cells) -/
theorem addCore_sum (p : Key → Bool) (s1 s2 : St V) (r : Option String) (name : String)
    (tag : Option String) (d : V) (ok : Bool) (hres : s1.res ≤ 4)
    (h : addCore s1 r name tag d = (s2, ok)) :
    s2.res = s1.res ∧ s2.init = s1.init ∧ (ok = false → s2 = s1) ∧
    sumWhere p s2.cells = sumWhere p s1.cells + (if ok ∧ p ⟨name, tag⟩ then d else 0) := by
  rw [(addCore_eq s1 s2 r name tag d ok hres h).1]
  cases ok
  · simp
  · exact ⟨rfl, rfl, nofun, by simpa using sumWhere_setKey p ⟨name, tag⟩ d s1.cells⟩

theorem WF_addCore (s1 s2 : St V) (hw : WF s1) (r : Option String) (name : String)
    (tag : Option String) (d : V) (ok : Bool) (h : addCore s1 r name tag d = (s2, ok)) : WF s2 := by
  obtain ⟨e, hk⟩ := addCore_eq s1 s2 r name tag d ok hw.res_le h
  rw [e]
  cases ok
  · exact hw
  · exact WF_put s1 hw _ _ (hk rfl).1 (hk rfl).2

theorem sumAll_map_keys (ns : List String) (f : String → V) :
    sumAll (ns.map fun n => ((⟨n, none⟩ : Key), f n)) = (ns.map f).sum := by
  simp [sumAll, Function.comp_def]

theorem sumAll_map_rows (table : List (String × List String)) (g : String × List String → V) :
    sumAll (table.map fun p => ((⟨p.1, none⟩ : Key), g p)) = (table.map g).sum := by
  simp [sumAll, Function.comp_def]

/-- **`_convert_res_elementary` conserves the total** and leaves a well-formed store of the new level -/
theorem convElem_ok (s : St V) (hw : WF s) (new : Nat) (c : List (Key × V))
    (h : convElem s.res new s.cells = some c) :
    sumAll c = sumAll s.cells ∧ WF ({ s with res := new, cells := c } : St V) ∧ new < s.res := by
  revert h
  fun_cases convElem s.res new s.cells <;> intro h <;> cases h
  -- in each of the four conversions the new key list is `(levelNames new).map (⟨·, none⟩)` itself
  all_goals refine ⟨?_, WF_of_keys new (by omega) _ _ (by simp [levelNames, *, Function.comp_def]), by omega⟩
  · -- pathways → types: one cell per type, holding the sum over its tags
    rw [sumAll_map_keys, ← hw.names_total]
    simp [levelNames, *, rowSumNames]
  · -- types → processes
    exact (sumAll_map_rows _ _).trans (hw.table_total (by omega) processes processes_partition_types)
  · -- types → signals
    exact (sumAll_map_rows _ _).trans (hw.table_total (by omega) signals signals_partition_types)
  · -- processes or signals → off: the single cell `total`
    rw [← hw.names_total, rowSumNames, ← rowSumKeys_eq s hw (by omega)]
    simp [sumAll]

/-- what is in the store (nothing before the first `_add_data`) -/
def content (s : St V) : V := if s.init then sumAll s.cells else 0

theorem convPaths_steps_le : ∀ p ∈ convPaths, ∀ x ∈ p.2.2, x ≤ 4 := by decide

theorem walk_ok (path : List Nat) (s : St V) (hw : WF s) :
    WF (walk s path).1 ∧ content (walk s path).1 = content s ∧ (walk s path).1.init = s.init := by
  fun_induction walk s path with
  | case2 s rest ih => exact ih hw  -- step = current level: skipped
  | case3 s st rest he c hc ih =>  -- one elementary conversion (`hc`)
    obtain ⟨e1, e2, e3⟩ := convElem_ok s hw st c hc
    have h' : WF (convState s st c) ∧ content (convState s st c) = content s := by
      unfold convState content
      split_ifs
      · exact ⟨e2, e1⟩
      · exact ⟨WF_of_keys st (by have := hw.res_le; omega) _ _ (List.nil_sublist _), rfl⟩
    obtain ⟨i1, i2, i3⟩ := ih h'.1
    exact ⟨i1, i2.trans h'.2, i3⟩
  | _ => exact ⟨hw, rfl, rfl⟩  -- empty path; refused conversion

/-- **`set_resolution` never changes what is stored in total** (admissible or refused) -/
theorem setRes_ok (s : St V) (hw : WF s) (r : String) :
    WF (setRes s r).1 ∧ content (setRes s r).1 = content s ∧ (setRes s r).1.init = s.init := by
  fun_cases setRes s r
  case case5 => exact walk_ok _ s hw  -- the only branch that walks
  all_goals exact ⟨hw, rfl, rfl⟩

theorem addData_ok (s : St V) (hw : WF s) (r : Option String) (name : String) (tag : Option String) (d : V) :
    WF (addData s r name tag d).1 ∧ (addData s r name tag d).1.init = true ∧
    content (addData s r name tag d).1 = content s + (if (addData s r name tag d).2 then d else 0) := by
  unfold addData
  have hw1 := WF_initStep s hw r
  obtain ⟨hi, hc⟩ : (initStep s r).init = true ∧ content (initStep s r) = content s := by
    fun_cases initStep s r
    · exact ⟨‹_›, rfl⟩
    · exact ⟨rfl, by simp [content, sumAll, *]⟩
  -- `Prod.mk.eta.symm` and not `rfl`, which would have `addCore` unfolded to find the two components
  obtain ⟨-, e2, -, e4⟩ :=
    addCore_sum (fun _ => true) (initStep s r) _ r name tag d _ hw1.res_le Prod.mk.eta.symm
  refine ⟨WF_addCore _ _ hw1 r name tag d _ Prod.mk.eta.symm, e2.trans hi, ?_⟩
  rw [← hc, content, content, e2, hi, sumAll_eq_sumWhere, e4]
  simp [sumAll_eq_sumWhere]

theorem step_ok (s : St V) (hw : WF s) (op : Op V) :
    WF (step s op).1 ∧ content (step s op).1 = content s + accepted s op ∧
      (s.init = true → (step s op).1.init = true) := by
  cases op with
  | add r n t d =>
    obtain ⟨h1, h2, h3⟩ := addData_ok s hw r n t d
    exact ⟨h1, h3, fun _ => h2⟩
  | setRes r =>
    obtain ⟨h1, h2, h3⟩ := setRes_ok s hw r
    exact ⟨h1, h2.trans (add_zero _).symm, h3.trans⟩

theorem run_ok (ops : List (Op V)) (s : St V) (hw : WF s) :
    WF (run s ops) ∧ content (run s ops) = content s + acceptedSum s ops := by
  induction ops generalizing s with
  | nil => simp [run, acceptedSum, hw]
  | cons op rest ih =>
    obtain ⟨h1, h2, _⟩ := step_ok s hw op
    obtain ⟨i1, i2⟩ := ih (step s op).1 h1
    refine ⟨i1, i2.trans ?_⟩
    rw [h2, acceptedSum, add_assoc]

theorem read_total (s : St V) (hw : WF s) :
    (readFlag s total none).toV = sumAll s.cells ∧ ¬ (readFlag s total none = .error) := by
  obtain ⟨noTy, t2, t3, noPr, noSg⟩ := total_is_fresh
  have hlt := lt_of_le_of_ne hw.res_le
  unfold readFlag
  simp only [noTy, t2, t3, if_false, if_true]
  split_ifs with h4 h3 hm
  · -- pathways: the sum over the signals of the sums over their types
    rw [Out.toV, ← hw.names_total, h4]
    exact ⟨table_sum signals signals_partition_types _, nofun⟩
  · -- types: the sum over the processes of the entries of their types
    exact ⟨hw.table_total h3 processes processes_partition_types, nofun⟩
  · -- storage resolution "off": the single cell
    have hl : levelNames s.res = [total] := by
      revert hm
      fun_cases levelNames s.res
      exacts [(absurd · noTy), (absurd · noPr), (absurd · noSg), fun _ => rfl]
    rw [← hw.names_total, hl, rowSumNames, ← rowSumKeys_eq s hw (hlt h4)]
    cases h : lookup (⟨total, none⟩ : Key) s.cells <;> simp [rowSumKeys, lookupD, Out.toV, h]
  · -- processes or signals: the sum of the entries of all names of the level
    exact ⟨(rowSumKeys_eq s hw (hlt h4) _).trans hw.names_total, nofun⟩

/-- **C19, total view**: after any history of additions (any level, any tags, accepted or refused)
and any reductions of the resolution, the total spectrum read back equals the sum of everything
that was accepted.  `hinit` says that some `_add_data` was called: `readFlag` is the getter of an initialised storage,
that of an uninitialised one is not modelled. -/
theorem conservation_total (ops : List (Op V)) (hinit : (run (fresh : St V) ops).init = true) :
    (readFlag (run fresh ops) total none).toV = acceptedSum (fresh : St V) ops := by
  obtain ⟨hw, hc⟩ := run_ok ops (fresh : St V) WF_fresh
  rw [(read_total _ hw).1, ← hc.trans (zero_add _), content, if_pos hinit]

/-- **a refused `_add_data` leaves an initialised storage as it was**; `hle` (part of `WF`) says that the resolution
is one of the five -/
theorem refused_unchanged (s : St V) (hs : s.init = true) (hle : s.res ≤ 4) (r : Option String) (name : String)
    (tag : Option String) (d : V) (h : (addData s r name tag d).2 = false) :
    (addData s r name tag d).1 = s := by
  unfold addData at h ⊢
  rw [show initStep s r = s by simp [initStep, hs]] at h ⊢
  exact (addCore_eq s _ r name tag d false hle (Prod.ext rfl h)).1

/-- per-view conservation, one step: an accepted addition raises the stored amount of the pathway type / process /
signal it is addressed to by `d` and leaves every other one unchanged -/
theorem view_add (s1 s2 : St V) (r : Option String) (name : String) (tag : Option String) (d : V)
    (hres : s1.res ≤ 4) (h : addCore s1 r name tag d = (s2, true)) (n : String) :
    sumName n s2.cells = sumName n s1.cells + (if name = n then d else 0) :=
  (addCore_sum (fun k => k.name == n) s1 s2 r name tag d true hres h).2.2.2.trans (by simp [sumName])

/-- non-vacuity: a history mixing levels, a refused duplicate tag and a reduction; total 1+10+10 -/
example : (readFlag (run (fresh : St Int)
    [.add (some "pathways") "R1g" (some "a") 1, .add (some "types") "R1g" none 10,
     .add (some "pathways") "R1g" (some "a") 5, .add (some "types") "R1g" none 10,
     .setRes "off"]) total none).toV = 21 := by decide
end
end QV.C19
