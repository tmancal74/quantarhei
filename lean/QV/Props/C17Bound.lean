import QV.Props.C17
import QV.Lemmas.TruncBound

/-!
# C17 — accuracy of the population propagation, positivity of its first-order step
The accuracy clause is the truncation bound of `Lemmas/TruncBound` read for populations.  `euler_step_nonneg` is the
first-order case of positivity, proved directly; every order is in `C17Positive`.
-/
namespace QV.C17
open NormedSpace Finset

section bound
variable {𝔸 : Type} [NormedRing 𝔸] [NormOneClass 𝔸] [NormedAlgebra ℚ 𝔸] [CompleteSpace 𝔸]

/-- **populations agree with the matrix exponential within the truncation bound**, in any complete normed algebra
holding the rate matrix `K` and the populations `p` (a column, padded to a matrix) -/
theorem populations_within_truncation_bound (K : 𝔸) (dt : ℚ) (L m : ℕ) (p : 𝔸) :
    ‖taylorSteps (algGen K) (· + ·) dt L m p - exp ((m : ℕ) • (dt • K)) * p‖ ≤
      (m * Real.exp ‖dt • K‖ ^ (m - 1) *
        (Real.exp ‖dt • K‖ - ∑ k ∈ range (L + 1), ‖dt • K‖ ^ k / k.factorial)) * ‖p‖ :=
  steps_within_truncation_bound K dt L m p

end bound

section positivity
variable {N : Nat}

/-- **first-order steps keep populations non-negative** when the off-diagonal rates are non-negative and
`dt·|K_jj| ≤ 1` (the admissible step size of the explicit scheme): `p' = p + dt·K p = (1 + dt·K) p` has a non-negative
matrix -/
theorem euler_step_nonneg (K : Fin N → Fin N → ℝ) (dt : ℝ) (hdt : 0 ≤ dt) (hoff : ∀ i j, i ≠ j → 0 ≤ K i j)
    (hstep : ∀ j, 0 ≤ 1 + dt * K j j) (p : VecD ℝ N) (hp : ∀ j, 0 ≤ p.fn j) (i : Fin N) :
    0 ≤ (taylorStep (popGen K) popAdd dt 1 p).fn i := by
  simp only [taylorStep, taylorLoop, popAdd, popGen, VecD.fn_tab, matVec, sumFin_eq_sum, Nat.cast_one, div_one]
  -- row `i` of `(1 + dt·K) p`: the diagonal term and the rest are non-negative separately
  rw [← Finset.add_sum_erase _ _ (mem_univ i), mul_add, ← add_assoc, ← mul_assoc, ← one_add_mul]
  exact add_nonneg (mul_nonneg (hstep i) (hp i)) (mul_nonneg hdt (Finset.sum_nonneg fun j hj =>
    mul_nonneg (hoff i j (ne_of_mem_erase hj).symm) (hp j)))

end positivity
end QV.C17
