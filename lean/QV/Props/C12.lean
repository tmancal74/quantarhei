import QV.Model.C12
import QV.Props.C19
import QV.Lemmas.Bridge
import Mathlib.Data.Rat.Defs
import Mathlib.Algebra.BigOperators.Fin
import Mathlib.Algebra.BigOperators.Group.List.Basic
import Mathlib.Tactic.Ring
import Mathlib.Tactic.FinCases

/-!
# C12 — third-order response: orientational prefactor, rotation, scaling, total = rephasing + non-rephasing
Algebra of the prefactor model `QV.C12` (the average itself is in `QV.Props.C12Average`).
-/
namespace QV.C12
open QV.Gen.C12

/-- the three isotropic rank-4 tensors `δδ`, in the pairing order of the source: positions (0,1,2,3) of the
tensor hold the vectors number (3,2,1,0) -/
def iso (α : Fin 3) (i j k l : Fin 3) : ℚ :=
  match α with
  | 0 => if i = j ∧ k = l then 1 else 0
  | 1 => if i = k ∧ j = l then 1 else 0
  | 2 => if i = l ∧ j = k then 1 else 0

def gram (α β : Fin 3) : ℚ := ∑ i, ∑ j, ∑ k, ∑ l, iso α i j k l * iso β i j k l

def m4 (α β : Fin 3) : ℚ := (m4Rat.getD α.val []).getD β.val 0

theorem gram_values : ∀ α β, gram α β = if α = β then 9 else 3 := by decide +kernel

/-- **`M4 · G = 1`**: the matrix of the source is exactly the inverse Gram matrix of the isotropic tensors -/
theorem m4_is_gram_inverse : ∀ α γ, ∑ β, m4 α β * gram β γ = if α = γ then 1 else 0 := by
  simp only [gram_values]
  decide +kernel

/-- the source pairs fields and dipoles in the same three ways, in the same order (`f4_eq_contraction`: they are the
contractions with the three isotropic tensors) -/
theorem pairings_agree : f4ePairs = f4nPairs ∧ f4ePairs = [((3, 2), (1, 0)), ((3, 1), (2, 0)), ((3, 0), (2, 1))] := by decide

section algebra
variable {K : Type} [CommRing K]

/-- `iso` cast into `K` -/
def isoK (α : Fin 3) (i j k l : Fin 3) : K := if iso α i j k l = 1 then 1 else 0

theorem f4_eq_contraction (v : Nat → Fin 3 → K) (α : Fin 3) :
    (f4 f4nPairs v).getD α.val 0 = ∑ i, ∑ j, ∑ k, ∑ l, isoK α i j k l * (v 3 i * v 2 j * v 1 k * v 0 l) := by
  fin_cases α
  -- `isoK α` is an `ite` on one pairing of the indices
  all_goals simp only [isoK, iso, (one_ne_zero (α := ℚ)).ite_eq_left_iff]
  -- against it the four sums collapse to two, before anything is expanded
  all_goals simp only [ite_mul, one_mul, zero_mul, ite_and, Finset.sum_ite_irrel, Finset.sum_const_zero, Fintype.sum_ite_eq]
  -- left is pairing `α` of the source, written out
  all_goals simp only [f4, f4nPairs, dot3, Fin.sum_univ_three, List.map_cons, List.getD_cons_zero, List.getD_cons_succ]
  all_goals ring

def applyM (Q : Fin 3 → Fin 3 → K) (v : Fin 3 → K) : Fin 3 → K := fun i => Q i 0 * v 0 + Q i 1 * v 1 + Q i 2 * v 2

def Orthogonal (Q : Fin 3 → Fin 3 → K) : Prop :=
  ∀ a b, Q 0 a * Q 0 b + Q 1 a * Q 1 b + Q 2 a * Q 2 b = if a = b then 1 else 0

theorem dot3_rotate (Q : Fin 3 → Fin 3 → K) (hQ : Orthogonal Q) (u v : Fin 3 → K) :
    dot3 (applyM Q u) (applyM Q v) = dot3 u v := by
  simpa only [dot3, applyM, Fin.sum_univ_three] using
    orth_dot Q (fun i j => (Fin.sum_univ_three _).trans (hQ i j)) u v

/-- **a common rotation (or reflection) of all four vectors changes none of the three pairings** -/
theorem f4_rotate (pairs : List ((Nat × Nat) × (Nat × Nat))) (Q : Fin 3 → Fin 3 → K) (hQ : Orthogonal Q) (v : Nat → Fin 3 → K) :
    f4 pairs (fun n => applyM Q (v n)) = f4 pairs v := by
  unfold f4
  refine List.map_congr_left (fun p _ => ?_)
  rw [dot3_rotate Q hQ, dot3_rotate Q hQ]

theorem dot3_scale (s : K) (u v : Fin 3 → K) : dot3 (fun i => s * u i) (fun i => s * v i) = s ^ 2 * dot3 u v := by
  unfold dot3; ring

theorem f4_scale (pairs : List ((Nat × Nat) × (Nat × Nat))) (s : K) (v : Nat → Fin 3 → K) :
    f4 pairs (fun n i => s * v n i) = (f4 pairs v).map (fun x => s ^ 4 * x) := by
  unfold f4
  rw [List.map_map]
  refine List.map_congr_left (fun p _ => ?_)
  simp only [Function.comp, dot3_scale]
  ring

theorem dotList_scale_right (s : K) : ∀ (x y : List K), dotList x (y.map (fun t => s * t)) = s * dotList x y := by
  intro x
  induction x with
  | nil => intro y; cases y <;> simp [dotList]
  | cons a xs ih =>
    intro y
    cases y with
    | nil => simp [dotList]
    | cons b ys => simp only [dotList, List.map_cons, ih]; ring

/-- **the prefactor does not change under a common rotation of all dipoles** -/
theorem pref_rotate_dipoles (m : List (List K)) (sign rho0 ev : K) (e d : Nat → Fin 3 → K) (Q : Fin 3 → Fin 3 → K)
    (hQ : Orthogonal Q) : pref m sign rho0 ev e (fun n => applyM Q (d n)) = pref m sign rho0 ev e d := by
  unfold pref; rw [f4_rotate _ Q hQ]

/-- **the prefactor does not change under a common rotation of all field polarisations** -/
theorem pref_rotate_fields (m : List (List K)) (sign rho0 ev : K) (e d : Nat → Fin 3 → K) (Q : Fin 3 → Fin 3 → K)
    (hQ : Orthogonal Q) : pref m sign rho0 ev (fun n => applyM Q (e n)) d = pref m sign rho0 ev e d := by
  unfold pref; rw [f4_rotate _ Q hQ]

/-- **the prefactor scales with the fourth power of a common dipole factor** -/
theorem pref_scale_dipoles (m : List (List K)) (sign rho0 ev s : K) (e d : Nat → Fin 3 → K) :
    pref m sign rho0 ev e (fun n i => s * d n i) = s ^ 4 * pref m sign rho0 ev e d := by
  unfold pref; rw [f4_scale, dotList_scale_right]; ring

end algebra

section signals
open QV.Gen.C19
variable {V : Type} [AddCommMonoid V]

/-- **total signal = rephasing + non-rephasing** (+ double coherence, which the calculator never fills), whatever is
stored per pathway type (tables of `twod2.py`, C19) -/
theorem total_eq_sum_of_signals (d : String → V) :
    (ptypes.map d).sum = ((signals.flatMap (·.2)).map d).sum :=
  (QV.C19.signals_partition_types.map d).sum_eq.symm

end signals
end QV.C12
