import QV.Props.C17

/-!
# C17 — population propagation is linear in the initial populations
The clauses of C17 about the stored populations (sum conserved, distance to `exp(Kt)p0` within the truncation bound) are
therefore scale free, and an absolute threshold applied to the expansion terms breaks them for small populations (seeded
change C17-8).  The harness uses populations of magnitude 2^-36 … 2^20 and tolerances relative to `Σ p0`.
-/
namespace QV.C17
open Finset

section
variable {α : Type} [Field α] {N : Nat}

def Scaled (c : α) (x y : VecD α N) : Prop := ∀ i, y.fn i = c * x.fn i

theorem popGen_scaled (K : Fin N → Fin N → α) (c pref : α) (x y : VecD α N) (h : Scaled c x y) :
    Scaled c (popGen K pref x) (popGen K pref y) := by
  intro i
  simp only [popGen, VecD.fn_tab, matVec, sumFin_eq_sum, h _, mul_left_comm _ c, ← mul_sum]

theorem popAdd_scaled (c : α) (a a' b b' : VecD α N) (h : Scaled c a b) (h' : Scaled c a' b') :
    Scaled c (popAdd a a') (popAdd b b') := by
  intro i
  simp only [popAdd, VecD.fn_tab, h i, h' i, mul_add]

/-- **homogeneity**: every stored population vector of `propagate(c·p0)` is `c` times the one of `propagate(p0)` -/
theorem popPropagate_scaled (K : Fin N → Fin N → α) (dt : α) (L Nref nt : Nat) (c : α) (p0 q0 : VecD α N)
    (h : Scaled c p0 q0) :
    List.Forall₂ (Scaled c) (popPropagate K dt L Nref nt p0) (popPropagate K dt L Nref nt q0) :=
  taylorTrajectory_rel (popGen K) popAdd (popGen K) popAdd dt (Scaled c) (fun l => popGen_scaled K c (dt / (l : α)))
    (popAdd_scaled c) L Nref nt p0 q0 h

end

/-- non-vacuity: a two-state exchange, one step of first order, populations (1,0) and (3,0) -/
example : (popPropagate (α := ℚ) (N := 2) (fun i j => if i = j then -1 else 1) (1 / 2) 1 1 2 (VecD.tab fun i => if i = 0 then 3 else 0)).map (fun v => (v.fn 0, v.fn 1))
    = (popPropagate (α := ℚ) (N := 2) (fun i j => if i = j then -1 else 1) (1 / 2) 1 1 2 (VecD.tab fun i => if i = 0 then 1 else 0)).map (fun v => (3 * v.fn 0, 3 * v.fn 1)) := by
  decide +kernel

end QV.C17
