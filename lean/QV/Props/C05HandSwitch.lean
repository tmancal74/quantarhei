import QV.Props.C05

/-!
# C05 — units switched by hand inside a context are undone when the context is left
`contexts_restore` is about programs made of `with energy_units(...)` blocks only.  Library code also switches units by
hand (`Manager().set_current_units`), and a routine that is refused half way (e.g. `Aggregate.build`) may leave them
switched.  The exit of the enclosing context does not depend on what is current when it runs, so the block restores
all the same - also when it asked for the units that were already active (the seeded change C05-12 skipped the restore
there).
-/
namespace QV.C05
open QV.Gen.C05

/-- bodies of blocks: hand switches (to known units) and properly nested blocks, in any order -/
inductive Inner : List UOp → Prop where
  | nil : Inner []
  | raw (u : String) (rest : List UOp) : u ∈ energyUnits → Inner rest → Inner (UOp.rawSet u :: rest)
  | block (u : String) (body rest : List UOp) : u ∈ energyUnits → Inner body → Inner rest →
      Inner (UOp.enter u :: body ++ UOp.exit :: rest)

theorem rawSet_known (s : UState) (hk : Known s) (u : String) (hu : u ∈ energyUnits) :
    (ustep s (.rawSet u)).1.current = u ∧ (ustep s (.rawSet u)).1.backups = s.backups ∧
    (ustep s (.rawSet u)).1.count = s.count ∧ Known (ustep s (.rawSet u)).1 := by
  simp only [ustep, rawSet, hu, if_true, Known, true_and]
  exact hk.2

theorem inner_keeps_stack (ops : List UOp) (h : Inner ops) :
    ∀ s, Known s → (urun s ops).backups = s.backups ∧ (urun s ops).count = s.count ∧ Known (urun s ops) := by
  induction h with
  | nil => intro s hk; exact ⟨rfl, rfl, hk⟩
  | raw u rest hu _ ih =>
    intro s hk
    obtain ⟨_, b1, c1, k1⟩ := rawSet_known s hk u hu
    obtain ⟨b2, c2, k2⟩ := ih _ k1
    rw [urun, List.foldl_cons]
    exact ⟨b2.trans b1, c2.trans c1, k2⟩
  | block u body rest hu _ _ ihb ihr =>
    intro s hk
    rw [urun_block]
    obtain ⟨b2, c2, _⟩ := ihb _ (Known_step s hk (.enter u) (by simp) (by simp))
    have hx := exit_restores s _ hk u hu b2 c2
    obtain ⟨b4, c4, k4⟩ := ihr _ (Known_of_visible _ _ hx hk)
    exact ⟨b4.trans (congrArg (·.2.1) hx), c4.trans (congrArg (·.2.2) hx), k4⟩

/-- **a block restores the active units, the backup stack and the nesting counter whatever hand switches and nested
blocks its body contains** -/
theorem block_restores_despite_hand_switches (u : String) (hu : u ∈ energyUnits) (body : List UOp) (hb : Inner body)
    (s : UState) (hk : Known s) :
    visible (urun s (UOp.enter u :: body ++ [UOp.exit])) = visible s := by
  obtain ⟨b2, c2, _⟩ := inner_keeps_stack body hb _ (Known_step s hk (.enter u) (by simp) (by simp))
  exact (congrArg visible (urun_block s u body [])).trans (exit_restores s _ hk u hu b2 c2)

/-- the program of the seeded change: `with 1/cm: with 1/cm: set_current_units(eV)` started under 1/cm -/
example : visible (urun { current := "1/cm", backups := [], count := 0, flag := false, saved := none }
    [.enter "1/cm", .enter "1/cm", .rawSet "eV", .exit, .exit]) = ("1/cm", [], 0) := by decide

example : Inner [.enter "1/cm", .rawSet "eV", .exit] :=
  Inner.block "1/cm" [.rawSet "eV"] [] (by decide) (Inner.raw "eV" [] (by decide) .nil) .nil

end QV.C05
