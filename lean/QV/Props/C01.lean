import QV.Model.C01
import QV.Lemmas.Bridge
import Mathlib.Algebra.Star.BigOperators
import Mathlib.Tactic.Ring

/-!
# C01 — relaxation generators preserve trace and Hermiticity
Theorems about the transcriptions in `QV.Model.C01`, for every dimension `n`,
every number of bath components and arbitrary operator entries.  The secular
keep/zero predicates are re-extracted from source on every run.
-/
namespace QV.C01
open QV.Gen.C01 Finset

variable {n : Nat}

/-- `sum_a R[a,a,c,d] = 0`: the tensor maps every operator to a traceless operator -/
def TraceFree {α : Type} [AddCommMonoid α] (R : Tens α n) : Prop := ∀ c d, ∑ a, R a a c d = 0
/-- `conj R[a,b,c,d] = R[b,a,d,c]`: the tensor commutes with Hermitian conjugation -/
def HermPres {α : Type} [Star α] (R : Tens α n) : Prop := ∀ a b c d, star (R a b c d) = R b a d c

section ring
variable {α : Type} [CommRing α]

theorem traceFree_add (R S : Tens α n) (hR : TraceFree R) (hS : TraceFree S) :
    TraceFree (fun a b c d => R a b c d + S a b c d) := fun c d => by
  rw [Finset.sum_add_distrib, hR c d, hS c d, add_zero]

/-- **one bath component of `_loopit` is trace free for ANY operators `K, Kd, L, Ld`** -/
theorem loopTerm_trace (K Kd L Ld : Mat α n) : TraceFree (loopTerm K Kd L Ld) := by
  intro c d
  -- `(Ld K)_dc` and `(Kd L)_dc`, each once with either sign
  simp only [loopTerm, matMul, sumFin_eq_sum, sum_sub_distrib, sum_add_distrib, Fintype.sum_ite_eq', mul_comm (K _ c),
    mul_comm (L _ c)]
  ring

/-- **the assembled time-independent Redfield / Lindblad tensor is trace free** for every list of components -/
theorem redfieldTensor_trace (comps : List (Mat α n × Mat α n × Mat α n)) :
    TraceFree (redfieldTensor comps) :=
  List.foldlRecOn comps _ (fun _ _ => Finset.sum_const_zero)
    fun _ hR _ _ => traceFree_add _ _ hR (loopTerm_trace _ _ _ _)

/-- the time-dependent element formula is trace free for ANY operators as well -/
theorem tdTerm_trace (K L Ld : Mat α n) : TraceFree (tdTerm K L Ld) :=
  loopTerm_trace K K L Ld

theorem tdTensor_trace (comps : List (Mat α n × Mat α n × Mat α n)) : TraceFree (tdTensor comps) :=
  List.foldlRecOn comps _ (fun _ _ => Finset.sum_const_zero)
    fun _ hR _ _ => traceFree_add _ _ hR (tdTerm_trace _ _ _)

/-- the Foerster part of the combined tensor keeps a trace-free tensor trace free, whatever the rates -/
theorem addFoersterRates_trace [Div α] [OfNat α 2] (KF : Mat α n) (R : Tens α n) (hR : TraceFree R) :
    TraceFree (addFoersterRates KF R) := by
  intro c d
  by_cases hcd : c = d
  · subst hcd
    -- the rates `KF a c` are added down the column `c`, their sum is taken off the diagonal element
    have e : ∀ a, addFoersterRates KF R a a c c = R a a c c + KF a c - if a = c then ∑ x, KF x a else 0 := fun a => by
      simp only [addFoersterRates, sumFin_eq_sum, true_and, and_true, if_true, sub_ite, sub_zero]
    simp only [e, sum_sub_distrib, sum_add_distrib, hR c c, Fintype.sum_ite_eq', zero_add, sub_self]
  · simp only [addFoersterRates, hcd, and_false, if_false]
    exact hR c d

/-- `hZ`: of the elements `(a,a,c,d)` the trace runs over, the mask zeroes all (`c ≠ d`) or none (`c = d`) -/
theorem masked_trace (Z : Fin n → Fin n → Fin n → Fin n → Prop) [∀ a b c d, Decidable (Z a b c d)]
    (hZ : ∀ a c d, Z a a c d ↔ c ≠ d) (R : Tens α n) (hR : TraceFree R) :
    TraceFree (fun a b c d => if Z a b c d then 0 else R a b c d) := by
  intro c d
  simp only [hZ, sum_ite_irrel, sum_const_zero, hR c d, ite_self]

end ring

section star
variable {α : Type} [CommRing α] [StarRing α]

theorem hermPres_add (R S : Tens α n) (hR : HermPres R) (hS : HermPres S) :
    HermPres (fun a b c d => R a b c d + S a b c d) := by
  intro a b c d; simp [hR a b c d, hS a b c d]

/-- **Hermiticity of one component**: `K` real, `Kd = Kᵀ`, `Ld = L†` -/
theorem loopTerm_herm (K L : Mat α n) (hK : ∀ i j, star (K i j) = K i j) :
    HermPres (loopTerm K (fun i j => K j i) L (fun i j => star (L j i))) := by
  intro a b c d
  -- once conjugation has passed through, the sides differ in the order of the factors (also inside the sums) and terms
  simp only [loopTerm, matMul, sumFin_eq_sum, star_sub, star_add, star_mul', star_star, hK, apply_ite star, star_sum,
    star_zero, mul_comm]
  ring

theorem redfieldTensor_herm (comps : List (Mat α n × Mat α n × Mat α n))
    (h : ∀ c ∈ comps, (∀ i j, star (c.1 i j) = c.1 i j) ∧ c.2.2 = fun i j => star (c.2.1 j i)) :
    HermPres (redfieldTensor comps) :=
  List.foldlRecOn comps _ (fun _ _ _ _ => star_zero _)
    fun _ hR c hc => hermPres_add _ _ hR ((h c hc).2 ▸ loopTerm_herm c.1 c.2.1 (h c hc).1)

/-- the time-dependent formula needs in addition a *symmetric* `K`
(true for `K = S⁻¹ P S` with real orthogonal `S` and symmetric `P`) -/
theorem tdTerm_herm (K L : Mat α n) (hK : ∀ i j, star (K i j) = K i j) (hs : ∀ i j, K i j = K j i) :
    HermPres (tdTerm K L (fun i j => star (L j i))) := by
  have h := loopTerm_herm K L hK
  rwa [← (funext₂ hs : K = fun i j => K j i)] at h

/-- population-transfer elements `R[a,a,b,b]` and coherence-decay elements `R[a,b,a,b]` are kept -/
theorem secular_keeps (R : Tens α n) (a b : Fin n) :
    secularLegacy R a a b b = R a a b b ∧ secularLegacy R a b a b = R a b a b ∧
    secularTD R a a b b = R a a b b ∧ secularTD R a b a b = R a b a b := by
  simp [secularLegacy, secularTD, zeroedLegacy, zeroedTD]

theorem secular_zero_elsewhere (R : Tens α n) (a b c d : Fin n)
    (h : ¬ ((a = b ∧ c = d) ∨ (a = c ∧ b = d))) :
    secularLegacy R a b c d = 0 ∧ secularTD R a b c d = 0 := by
  simp [secularLegacy, secularTD, zeroedLegacy, zeroedTD, Fin.val_inj, h]

theorem masked_herm (Z : Fin n → Fin n → Fin n → Fin n → Prop) [∀ a b c d, Decidable (Z a b c d)]
    (hZ : ∀ a b c d, Z a b c d ↔ Z b a d c) (R : Tens α n) (hR : HermPres R) :
    HermPres (fun a b c d => if Z a b c d then 0 else R a b c d) := by
  intro a b c d
  simp only [hZ b a d c, apply_ite star, star_zero, hR a b c d]

/-- what `secular_trace` needs of the extracted masks (with `zeroed_symm`, the facts to prove again when `secularize`
is edited): on `(a,a,c,d)` the alternative `a = c ∧ a = d` for keeping an element implies the other one, `c = d` -/
theorem zeroed_diag (a c d : Fin n) : (zeroedLegacy a.val a.val c.val d.val ↔ c ≠ d) ∧
    (zeroedTD a.val a.val c.val d.val ↔ c ≠ d) := by
  grind [zeroedLegacy, zeroedTD]

theorem secular_trace (R : Tens α n) (hR : TraceFree R) : TraceFree (secularLegacy R) ∧ TraceFree (secularTD R) :=
  ⟨masked_trace _ (fun a c d => (zeroed_diag a c d).1) R hR, masked_trace _ (fun a c d => (zeroed_diag a c d).2) R hR⟩

/-- what `secular_herm` needs of the extracted masks -/
theorem zeroed_symm (a b c d : Nat) : (zeroedLegacy a b c d ↔ zeroedLegacy b a d c) ∧
    (zeroedTD a b c d ↔ zeroedTD b a d c) := by
  grind [zeroedLegacy, zeroedTD]

theorem secular_herm (R : Tens α n) (hR : HermPres R) : HermPres (secularLegacy R) ∧ HermPres (secularTD R) :=
  ⟨masked_herm _ (fun _ _ _ _ => (zeroed_symm _ _ _ _).1) R hR, masked_herm _ (fun _ _ _ _ => (zeroed_symm _ _ _ _).2) R hR⟩
end star

section field
variable {α : Type} [Field α] [StarRing α]

omit [StarRing α] in
/-- the elements of the Foerster tensor (rates → `updateStructure` → pure dephasing): on `(a,b,a,b)` depopulation
(`a = b`) or decay of the coherence, on `(a,a,c,c)` population transfer, nothing else -/
theorem foerster_apply (KF : Mat α n) (h : Fin n → α) (cj : α → α) (a b c d : Fin n) :
    addDephasing cj h (updateStructure (foersterBare KF)) a b c d =
      if a = c ∧ b = d then
        if a = b then -(∑ x, if x = a then 0 else KF x a)
        else (-(∑ x, if x = a then 0 else KF x a) + -(∑ x, if x = b then 0 else KF x b)) / 2 - (h a + cj (h b))
      else if a = b ∧ c = d then KF a c else 0 := by
  simp only [addDephasing, updateStructure, foersterBare, sumFin_eq_sum, ne_eq, not_true_eq_false, true_and, if_false,
    if_true, zero_sub, sub_zero, ite_not]
  -- both sides are `if`-trees over the equalities among `a, b, c, d` with the same leaves: `grind` only runs the cases
  grind

/-- the Foerster tensor is trace free for any rate matrix and any line-shape derivatives -/
theorem foerster_trace (KF : Mat α n) (h : Fin n → α) (cj : α → α) :
    TraceFree (addDephasing cj h (updateStructure (foersterBare KF))) := by
  intro c d
  by_cases hcd : c = d
  · -- the diagonal element `(c,c,c,c)` is minus the sum of the others
    simp only [foerster_apply, hcd, and_self, if_true, sum_ite, filter_eq', mem_univ, sum_singleton, zero_add,
      neg_add_cancel]
  · exact Finset.sum_eq_zero fun a _ => by
      rw [foerster_apply, if_neg fun h => hcd (h.1.symm.trans h.2), if_neg fun h => hcd h.2]

/-- the Foerster tensor commutes with Hermitian conjugation for real rates: the bra side of a coherence decays with
the conjugate line-shape derivative (`h_a + conj h_b`; with `h_a + h_b` this fails, which was a defect) -/
theorem foerster_herm (KF : Mat α n) (h : Fin n → α) (hK : ∀ i j, star (KF i j) = KF i j) :
    HermPres (addDephasing star h (updateStructure (foersterBare KF))) := by
  intro a b c d
  have hγ : ∀ y, star (∑ x, if x = y then 0 else KF x y) = ∑ x, if x = y then 0 else KF x y := fun y => by
    simp only [star_sum, apply_ite star, star_zero, hK]
  rw [foerster_apply, foerster_apply]
  simp only [apply_ite star, star_zero, star_neg, hK, hγ]
  -- `(a,b,c,d) ↦ (b,a,d,c)` carries each kind of element to its own kind
  refine if_ctx_congr and_comm (fun _ => if_ctx_congr eq_comm ?_ ?_) fun _ =>
    if_ctx_congr (and_congr eq_comm eq_comm) ?_ ?_
  · exact fun h2 => by rw [h2]  -- depopulation
  · intro _  -- coherence decay: `h a + star (h b)` goes to its conjugate
    simp only [star_sub, star_add, star_div₀, star_neg, hγ, star_star, star_ofNat]
    ring
  · exact fun h3 => by rw [h3.1, h3.2]  -- transfer
  · exact fun _ => rfl  -- zero
end field

/-- four unrelated integer matrices: `Kd` is not the transpose of `K`, `Ld` not the adjoint of `L` -/
example : TraceFree (loopTerm (n := 2) (α := Int) (fun i j => (i.val : Int) + 2 * j.val) (fun i j => 3 * i.val)
    (fun i j => (i.val : Int) - j.val) (fun _ _ => 7)) := loopTerm_trace _ _ _ _

end QV.C01
