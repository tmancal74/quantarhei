import QV.Props.C12Design

/-!
# C12 — the design reproduces the isotropic fourth moment, hence `RotationAverage designAvg`
The quarter turns give the averaged tensor the cubic form in its row and in its column indices; in the table of its
sixteen canonical components the row and the column `0000` are the sums of the three others, which removes the cubic
anisotropy (`iso_of_cubic`, twice).  The combination of isotropic tensors that is left is invariant under every matrix
with orthonormal rows, which by linearity (`linear_rot4`) is the invariance of the design on products of four matrix elements.
-/
namespace QV.C12

theorem T8d_canon (u v : Fin 4) :
    T8 designAvg (canon u).1 (canon u).2.1 (canon u).2.2.1 (canon u).2.2.2 (canon v).1 (canon v).2.1 (canon v).2.2.1 (canon v).2.2.2
      = ((valq u v : ℚ) : ℝ) := by
  rw [T8d_cast, t8q_canon]

theorem T8d_rowform (i j k l a b c d : Fin 3) :
    T8 designAvg i j k l a b c d
      = (if i = j ∧ k = l then T8 designAvg 0 0 1 1 a b c d else 0) + (if i = k ∧ j = l then T8 designAvg 0 1 0 1 a b c d else 0)
        + (if i = l ∧ j = k then T8 designAvg 0 1 1 0 a b c d else 0)
        + (if i = j ∧ j = k ∧ k = l then T8 designAvg 0 0 0 0 a b c d - T8 designAvg 0 0 1 1 a b c d
            - T8 designAvg 0 1 0 1 a b c d - T8 designAvg 0 1 1 0 a b c d else 0) :=
  cubic_form (T8 designAvg · · · · a b c d) (T8d_row_z · · · · a b c d) (T8d_row_x · · · · a b c d) i j k l

theorem T8d_colform (i j k l a b c d : Fin 3) :
    T8 designAvg i j k l a b c d
      = (if a = b ∧ c = d then T8 designAvg i j k l 0 0 1 1 else 0) + (if a = c ∧ b = d then T8 designAvg i j k l 0 1 0 1 else 0)
        + (if a = d ∧ b = c then T8 designAvg i j k l 0 1 1 0 else 0)
        + (if a = b ∧ b = c ∧ c = d then T8 designAvg i j k l 0 0 0 0 - T8 designAvg i j k l 0 0 1 1
            - T8 designAvg i j k l 0 1 0 1 - T8 designAvg i j k l 0 1 1 0 else 0) :=
  cubic_form (T8 designAvg i j k l) (T8d_col_z i j k l) (T8d_col_x i j k l) a b c d

theorem valq_rows : ∀ u, valq u 3 = valq u 0 + valq u 1 + valq u 2 := by decide +kernel
theorem valq_cols : ∀ v, valq 3 v = valq 0 v + valq 1 v + valq 2 v := by decide +kernel

/-- canonical row indices: isotropic in the column indices -/
theorem T8d_cols (u : Fin 4) {i j k l : Fin 3} (hu : canon u = (i, j, k, l)) (a b c d : Fin 3) :
    T8 designAvg i j k l a b c d
      = ((valq u 0 : ℚ) : ℝ) * isoR 0 a b c d + ((valq u 1 : ℚ) : ℝ) * isoR 1 a b c d + ((valq u 2 : ℚ) : ℝ) * isoR 2 a b c d := by
  have val : ∀ v {a b c d : Fin 3}, canon v = (a, b, c, d) → T8 designAvg i j k l a b c d = ((valq u v : ℚ) : ℝ) :=
    fun v _ _ _ _ hv => by simpa only [hu, hv] using T8d_canon u v
  rw [iso_of_cubic (T8 designAvg i j k l) ?_ (T8d_colform i j k l) a b c d]
  · rw [val 0 rfl, val 1 rfl, val 2 rfl]
  · -- no anisotropy: the column `0000` is the sum of the others (`valq_rows`)
    rw [val 0 rfl, val 1 rfl, val 2 rfl, val 3 rfl, valq_rows u]
    push_cast
    ring

theorem m4R_00 : m4R 0 0 = 4 / 30 := by rw [m4R, if_pos rfl]
theorem m4R_01 : m4R 0 1 = -1 / 30 := by rw [m4R, if_neg (by decide)]
theorem m4R_02 : m4R 0 2 = -1 / 30 := by rw [m4R, if_neg (by decide)]
theorem m4R_10 : m4R 1 0 = -1 / 30 := by rw [m4R, if_neg (by decide)]
theorem m4R_11 : m4R 1 1 = 4 / 30 := by rw [m4R, if_pos rfl]
theorem m4R_12 : m4R 1 2 = -1 / 30 := by rw [m4R, if_neg (by decide)]
theorem m4R_20 : m4R 2 0 = -1 / 30 := by rw [m4R, if_neg (by decide)]
theorem m4R_21 : m4R 2 1 = -1 / 30 := by rw [m4R, if_neg (by decide)]
theorem m4R_22 : m4R 2 2 = 4 / 30 := by rw [m4R, if_pos rfl]

/-- **the design has the isotropic fourth moment** -/
theorem T8d_eq (i j k l a b c d : Fin 3) :
    T8 designAvg i j k l a b c d = ∑ α, ∑ β, m4R α β * isoR α i j k l * isoR β a b c d := by
  -- isotropic in the row indices too, with the three canonical rows `T8d_cols 0/1/2` as coefficients
  rw [iso_of_cubic (T8 designAvg · · · · a b c d) ?_ (T8d_rowform · · · · a b c d) i j k l, T8d_cols 0 rfl, T8d_cols 1 rfl, T8d_cols 2 rfl]
  · simp only [Fin.sum_univ_three, m4R_00, m4R_01, m4R_02, m4R_10, m4R_11, m4R_12, m4R_20, m4R_21, m4R_22,
      valq, Fin.reduceEq, and_false, or_false, if_false, if_true]
    ring
  · rw [T8d_cols 3 rfl, T8d_cols 0 rfl, T8d_cols 1 rfl, T8d_cols 2 rfl, valq_cols 0, valq_cols 1, valq_cols 2]
    push_cast
    ring

theorem iso_rot (Q : M3) (hrow : ∀ i j, (∑ p, Q i p * Q j p) = if i = j then 1 else 0) (α : Fin 3) (i j k l : Fin 3) :
    (∑ p, ∑ q, ∑ r, ∑ s, Q i p * Q j q * Q k r * Q l s * isoR α p q r s) = isoR α i j k l := by
  obtain ⟨h0, h1, h2⟩ := c4_iso (Q i) (Q j) (Q k) (Q l)
  simp only [c4, dotR, hrow, ite_zero_mul_ite_zero, mul_one] at h0 h1 h2
  match α with
  | 0 => exact h0
  | 1 => exact h1
  | 2 => exact h2

theorem Qr_rows (i j : Fin 3) : (∑ p, Qr i p * Qr j p) = if i = j then 1 else 0 := by
  revert i j
  simp [Fin.forall_fin_succ, Fin.sum_univ_three, Qr]
  norm_num

theorem comb_rot (Q : M3) (hrow : ∀ i j, (∑ p, Q i p * Q j p) = if i = j then 1 else 0) (c0 c1 c2 : ℝ) (i j k l : Fin 3) :
    (∑ p, ∑ q, ∑ r, ∑ s, (Q i p * Q j q * Q k r * Q l s) * (c0 * isoR 0 p q r s + c1 * isoR 1 p q r s + c2 * isoR 2 p q r s))
      = c0 * isoR 0 i j k l + c1 * isoR 1 i j k l + c2 * isoR 2 i j k l := by
  simpa only [c4, iso_rot Q hrow] using c4_comb3 c0 c1 c2 (isoR 0) (isoR 1) (isoR 2) (Q i) (Q j) (Q k) (Q l)

theorem formula_rot_rows (Q : M3) (hrow : ∀ i j, (∑ p, Q i p * Q j p) = if i = j then 1 else 0) (i j k l a b c d : Fin 3) :
    (∑ p, ∑ q, ∑ r, ∑ s, (Q i p * Q j q * Q k r * Q l s) * T8 designAvg p q r s a b c d) = T8 designAvg i j k l a b c d := by
  show c4 (fun p q r s => T8 designAvg p q r s a b c d) (Q i) (Q j) (Q k) (Q l) = _
  simp only [T8d_eq, c4_sum, c4_smul, c4_mul_right]
  simp only [c4, iso_rot Q hrow]

theorem formula_rot_cols (Q : M3) (hrow : ∀ i j, (∑ p, Q i p * Q j p) = if i = j then 1 else 0) (i j k l a b c d : Fin 3) :
    (∑ p, ∑ q, ∑ r, ∑ s, (Q a p * Q b q * Q c r * Q d s) * T8 designAvg i j k l p q r s) = T8 designAvg i j k l a b c d := by
  show c4 (fun p q r s => T8 designAvg i j k l p q r s) (Q a) (Q b) (Q c) (Q d) = _
  simp only [T8d_eq, c4_sum, c4_smul]
  simp only [c4, iso_rot Q hrow]

theorem three_rows {Q : M3} (hQ : Q = Qz ∨ Q = Qx ∨ Q = Qr) : ∀ i j, (∑ p, Q i p * Q j p) = if i = j then 1 else 0 := by
  rcases hQ with rfl | rfl | rfl
  -- rows of `Q` = columns of `Qᵀ` (`castM_tr` is `rfl`)
  exacts [castQz ▸ castM_ortho (trMq Qzq) (by decide +kernel), castQx ▸ castM_ortho (trMq Qxq) (by decide +kernel), Qr_rows]

/-- **the assumed properties are satisfiable**: the explicit design is an averaging functional in the sense of
`RotationAverage` -/
theorem designAvg_isRotationAverage : RotationAverage designAvg where
  add := design_add
  smul := design_smul
  one := design_one
  supp := design_supp
  left := fun Q hQ i j k l a b c d =>
    (linear_rot4 design_add design_smul Q i j k l).trans (formula_rot_rows Q (three_rows hQ) i j k l a b c d)
  right := fun Q hQ i j k l a b c d => by
    simp only [mulM_trM]
    exact (linear_rot4 design_add design_smul Q a b c d).trans (formula_rot_cols Q (three_rows hQ) i j k l a b c d)

/-- so the closed formula is the value of an actual averaging functional, the design -/
theorem design_orientational_average (e3 e2 e1 e0 d3 d2 d1 d0 : Fin 3 → ℝ) :
    designAvg (fun R => proj e3 d3 R * proj e2 d2 R * proj e1 d1 R * proj e0 d0 R)
      = ∑ α, ∑ β, F4R e3 e2 e1 e0 α * m4R α β * F4R d3 d2 d1 d0 β :=
  orientational_average designAvg_isRotationAverage ..

end QV.C12
