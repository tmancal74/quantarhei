import QV.Props.C07Covariant

/-!
# C02 — trace and Hermiticity of the propagated state do not depend on the basis it is propagated in
By `propagate_covariant` the states stored by a propagation in another basis are, time by time, the sandwiches of those
stored in the original one; `tr(S1 A SS) = tr A` when `SS · S1 = 1`, and a real orthogonal pair keeps Hermiticity.
-/
namespace QV.Prop
open QV.C01

variable {α : Type} [CommRing α] {n : Nat}

theorem trace_sandwich (S1 SS A : Mat α n) (h3 : ∀ x y, ∑ a, SS x a * S1 a y = if x = y then 1 else 0) :
    QV.trace (sandwich S1 SS A) = QV.trace A := by
  rw [trace_eq_matrix_trace, trace_eq_matrix_trace, of_sandwich, Matrix.trace_mul_comm, Matrix.mul_assoc,
    mul_eq_one_of_sum h3, Matrix.mul_one]

/-- **the stored traces are the same in every basis** -/
theorem propagate_trace_basis_independent {β : Type} [Field β] (ii : β) (S1 SS H : Mat β n) (R : Tens β n) (dt : β)
    (L Nref nt : Nat) (ρ0 ρ0' : MatD β n n)
    (h1 : ∀ x y, ∑ c, S1 c x * S1 c y = if x = y then 1 else 0)
    (h2 : ∀ x y, ∑ d, SS x d * SS y d = if x = y then 1 else 0)
    (h3 : ∀ x y, ∑ a, SS x a * S1 a y = if x = y then 1 else 0)
    (h0 : ρ0'.fn = sandwich S1 SS ρ0.fn) :
    List.Forall₂ (fun x y => QV.trace y.fn = QV.trace x.fn)
      (rdmPropagate (genTensor ii H R) dt L Nref nt ρ0)
      (rdmPropagate (genTensor ii (sandwich S1 SS H) (transformTwoPass S1 SS R)) dt L Nref nt ρ0') := by
  refine List.Forall₂.imp ?_ (propagate_covariant ii S1 SS H R dt L Nref nt ρ0 ρ0' h1 h2 h3 h0)
  intro x y hxy
  rw [hxy, trace_sandwich S1 SS x.fn h3]

section herm
variable {β : Type} [Field β] [StarRing β]

theorem sandwich_herm (S1 SS A : Mat β n) (hreal : ∀ x y, star (SS x y) = SS x y) (hT : ∀ x y, S1 x y = SS y x)
    (hA : ∀ i j, star (A i j) = A j i) (i j : Fin n) :
    star (sandwich S1 SS A i j) = sandwich S1 SS A j i := by
  -- the right side is the sandwich of the transpose, entry `(i, j)`
  refine Eq.trans ?_ (congrFun₂ (sandwich_transpose S1 SS A hT) i j).symm
  simp only [sandwich, matMul, sumFin_eq_sum, star_sum, star_mul', hT, hreal, hA]

/-- **Hermiticity of the stored states carries over to every basis** -/
theorem propagate_herm_basis {ii : β} (S1 SS H : Mat β n) (R : Tens β n) (dt : β)
    (L Nref nt : Nat) (ρ0 ρ0' : MatD β n n)
    (h1 : ∀ x y, ∑ c, S1 c x * S1 c y = if x = y then 1 else 0)
    (h2 : ∀ x y, ∑ d, SS x d * SS y d = if x = y then 1 else 0)
    (h3 : ∀ x y, ∑ a, SS x a * S1 a y = if x = y then 1 else 0)
    (hreal : ∀ x y, star (SS x y) = SS x y) (hT : ∀ x y, S1 x y = SS y x)
    (h0 : ρ0'.fn = sandwich S1 SS ρ0.fn) :
    List.Forall₂ (fun x y => (∀ i j, star (x.fn i j) = x.fn j i) → ∀ i j, star (y.fn i j) = y.fn j i)
      (rdmPropagate (genTensor ii H R) dt L Nref nt ρ0)
      (rdmPropagate (genTensor ii (sandwich S1 SS H) (transformTwoPass S1 SS R)) dt L Nref nt ρ0') := by
  refine List.Forall₂.imp ?_ (propagate_covariant ii S1 SS H R dt L Nref nt ρ0 ρ0' h1 h2 h3 h0)
  intro x y hxy hx i j
  rw [hxy]
  exact sandwich_herm S1 SS x.fn hreal hT hx i j
end herm

end QV.Prop
