import QV.Props.C08Apply
import QV.Props.C07Covariant

/-!
# C08 — the evolution superoperator in another basis
The evolution superoperator assembled (elementary step on matrix units, dense steps composed with `tensordot`) from the
transformed Hamiltonian and the transformed tensor acts on the transformed state as the transformed result of the
superoperator assembled in the original basis (orthogonal `S1 = SSᵀ`).
-/
namespace QV.Prop
open QV.C01

variable {α : Type} [Field α] {n : Nat}

theorem steps_covariant (ii : α) (S1 SS H : Mat α n) (R : Tens α n) (dtd : α) (L k : Nat) (ρ ρ' : MatD α n n)
    (h1 : ∀ x y, ∑ c, S1 c x * S1 c y = if x = y then 1 else 0)
    (h2 : ∀ x y, ∑ d, SS x d * SS y d = if x = y then 1 else 0)
    (h3 : ∀ x y, ∑ a, SS x a * S1 a y = if x = y then 1 else 0)
    (h0 : ρ'.fn = sandwich S1 SS ρ.fn) :
    (taylorSteps (genTensor ii (sandwich S1 SS H) (transformTwoPass S1 SS R)) madd dtd L k ρ').fn
      = sandwich S1 SS (taylorSteps (genTensor ii H R) madd dtd L k ρ).fn :=
  taylorSteps_lift _ madd _ madd dtd _ L (taylorStep_covariant ii S1 SS H R dtd L h1 h2 h3) k ρ ρ' h0

/-- **the evolution superoperator of the new basis acts on the transformed state as the transformed result** -/
theorem evolution_covariant (ii : α) (S1 SS H : Mat α n) (R : Tens α n) (dtd : α) (L k : Nat) (ρ ρ' : MatD α n n)
    (h1 : ∀ x y, ∑ c, S1 c x * S1 c y = if x = y then 1 else 0)
    (h2 : ∀ x y, ∑ d, SS x d * SS y d = if x = y then 1 else 0)
    (h3 : ∀ x y, ∑ a, SS x a * S1 a y = if x = y then 1 else 0)
    (h0 : ρ'.fn = sandwich S1 SS ρ.fn) :
    tensApply (denseT (elemStep (genTensor ii (sandwich S1 SS H) (transformTwoPass S1 SS R)) dtd L) k).fn ρ'.fn
      = sandwich S1 SS (tensApply (denseT (elemStep (genTensor ii H R) dtd L) k).fn ρ.fn) := by
  rw [apply_eq_propagate, apply_eq_propagate]
  exact steps_covariant ii S1 SS H R dtd L (k + 1) ρ ρ' h1 h2 h3 h0

end QV.Prop
