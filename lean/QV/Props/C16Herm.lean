import QV.Props.C16Dyn
import Mathlib.Data.Complex.Basic

/-!
# C16 — the hierarchy's propagation keeps the reduced density matrix Hermitian
The right-hand side maps elementwise Hermitian-conjugate states (`Conj`) to conjugate states, so every element of the
hierarchy - not only the reduced density matrix - stays Hermitian if it starts so.
-/
namespace QV.C16
open QV.Prop

theorem foldl_rel {β β' γ : Type} (R : β → β' → Prop) (f : β → γ → β) (g : β' → γ → β') (l : List γ) (b : β) (b' : β')
    (h0 : R b b') (hstep : ∀ b b' x, x ∈ l → R b b' → R (f b x) (g b' x)) : R (l.foldl f b) (l.foldl g b') :=
  List.foldl_rel h0 fun x hx b b' h => hstep b b' x hx h

variable {α : Type} [Field α] [StarRing α] [Inhabited α] {n : Nat}

def dag (A : Fin n → Fin n → α) : Fin n → Fin n → α := fun a b => star (A b a)

theorem dag_matMul (A B : Fin n → Fin n → α) : dag (matMul A B) = matMul (dag B) (dag A) :=
  funext fun a => funext fun b => star_matMul A B b a
theorem dag_matAdd (A B : Fin n → Fin n → α) : dag (matAdd A B) = matAdd (dag A) (dag B) :=
  funext fun _ => funext fun _ => star_add _ _
theorem dag_matSub (A B : Fin n → Fin n → α) : dag (matSub A B) = matSub (dag A) (dag B) :=
  funext fun _ => funext fun _ => star_sub _ _
theorem dag_matScale (c : α) (A : Fin n → Fin n → α) : dag (matScale c A) = matScale (star c) (dag A) :=
  funext fun _ => funext fun _ => star_mul' _ _
theorem dag_zero : dag (fun (_ _ : Fin n) => (0 : α)) = fun _ _ => 0 :=
  funext fun _ => funext fun _ => star_zero α

theorem dag_scale_acomm {s : α} (hs : star s = s) {V : Fin n → Fin n → α} (hV : dag V = V) (A : Fin n → Fin n → α) :
    dag (matScale s (matAdd (matMul V A) (matMul A V))) = matScale s (matAdd (matMul V (dag A)) (matMul (dag A) V)) := by
  rw [dag_matScale, dag_matAdd, dag_matMul, dag_matMul, hV, hs]
  funext a b
  simp only [matScale, matAdd, add_comm]

theorem dag_scale_comm {s : α} (hs : star s = -s) {V : Fin n → Fin n → α} (hV : dag V = V) (A : Fin n → Fin n → α) :
    dag (matScale s (matSub (matMul V A) (matMul A V))) = matScale s (matSub (matMul V (dag A)) (matMul (dag A) V)) := by
  rw [dag_matScale, dag_matSub, dag_matMul, dag_matMul, hV, hs]
  funext a b
  simp only [matScale, matSub, neg_mul, ← mul_neg, neg_sub]

/-- `gamma` is real twice: by index for `crosBody`, over `toList` for `bigGamma` -/
structure RealHier (hy : Hier α n) : Prop where
  ii : star hy.ii = -hy.ii
  two : star hy.two = hy.two
  kBT : star hy.kBT = hy.kBT
  lam : ∀ kk, kk < hy.nbath → star hy.lam[kk]! = hy.lam[kk]!
  gam : ∀ kk, kk < hy.nbath → star hy.gamma[kk]! = hy.gamma[kk]!
  gamL : ∀ x ∈ hy.gamma.toList, star x = x
  H : dag hy.HH = hy.HH
  V : ∀ kk, kk < hy.nbath → dag hy.Vs[kk]! = hy.Vs[kk]!

theorem star_bigGamma (g : List α) (hg : ∀ x ∈ g, star x = x) (v : List Nat) : star (bigGamma g v) = bigGamma g v :=
  List.sum_induction IsSelfAdjoint (fun _ _ => IsSelfAdjoint.add) (IsSelfAdjoint.zero α) fun x hx => by
    obtain ⟨p, hp, rfl⟩ := List.mem_map.mp hx
    exact (IsSelfAdjoint.natCast p.1).mul (hg p.2 (List.of_mem_zip hp).2)

def Conj (N : Nat) (x y : Ado α n) : Prop :=
  x.size = N ∧ y.size = N ∧ ∀ i, i < N → (y[i]!).fn = dag (x[i]!).fn

theorem nm1_ge (h : List (List Nat)) (nn kk : Nat) : -1 ≤ nm1 h nn kk := (nm1_bounds h nn kk).1

theorem nm1_lt (h : List (List Nat)) (nn kk : Nat) (hn : nn < h.length) : nm1 h nn kk < (h.length : Int) := by
  have := (nm1_bounds h nn kk).2
  omega

theorem pyGet_conj (N : Nat) (hN : 0 < N) (x y : Ado α n) (h : Conj N x y) (jj : Int) (h1 : -1 ≤ jj) (h2 : jj < (N : Int)) :
    pyGet y jj = dag (pyGet x jj) := by
  obtain ⟨hx, hy, he⟩ := h
  unfold pyGet
  split_ifs
  · rw [hx, hy]  -- `jj = −1`: position `N − 1` of both (equal sizes; needs `0 < N`)
    exact he _ (by omega)
  · exact he _ (by omega)  -- `0 ≤ jj`

omit [Inhabited α] in
theorem star_mul_imag {a b : α} (ha : star a = -a) (hb : star b = b) : star (a * b) = -(a * b) := by
  rw [star_mul', ha, hb, neg_mul]

/-- the lowering terms are a real multiple of an anticommutator and an imaginary multiple of a commutator with the
Hermitian `V_k`, the raising term an imaginary multiple of a commutator -/
theorem crosBody_conj (hy : Hier α n) (hr : RealHier hy) (hpos : 0 < hy.h.length) (c : α) (hc : star c = c)
    (x y : Ado α n) (hxy : Conj hy.h.length x y) (nn : Nat) (hn : nn < hy.h.length) (acc acc' : MatD α n n) (kk : Nat)
    (hk : kk < hy.nbath) (hacc : acc'.fn = dag acc.fn) :
    (crosBody hy y c nn acc' kk).fn = dag (crosBody hy x c nn acc kk).fn := by
  have hdn := pyGet_conj _ hpos x y hxy _ (nm1_ge hy.h nn kk) (nm1_lt hy.h nn kk hn)
  have hup := pyGet_conj _ hpos x y hxy _ (np1_bounds hy.h nn kk).1 (np1_lt hy.h nn kk)
  have hV := hr.V kk hk
  have hic := star_mul_imag hr.ii hc
  have hth (m : Nat) := ((IsSelfAdjoint.mul hc (star_natCast m)).mul (hr.lam kk hk)).mul (hr.gam kk hk)
  have hps (m : Nat) :=
    star_mul_imag (star_mul_imag (star_mul_imag (star_mul_imag hic hr.two) (star_natCast m)) (hr.lam kk hk)) hr.kBT
  unfold crosBody
  simp only [apply_ite MatD.fn, apply_ite dag, MatD.fn_tab, hdn, hup, hacc, dag_matAdd, dag_scale_acomm (hth _) hV,
    dag_scale_comm (hps _) hV, dag_scale_comm hic hV]

theorem heomGen_conj (hy : Hier α n) (hr : RealHier hy) (hpos : 0 < hy.h.length) (c : α) (hc : star c = c)
    (x y : Ado α n) (hxy : Conj hy.h.length x y) : Conj hy.h.length (heomGen hy 0 c x) (heomGen hy 0 c y) := by
  refine ⟨(size_heomGen hy x c 0).trans hxy.1, (size_heomGen hy y c 0).trans hxy.2.1, fun i hi => ?_⟩
  -- the coupling loops on `x` and on `y` keep their accumulators conjugate to each other
  have hfold := foldl_rel (fun a a' : MatD α n n => a'.fn = dag a.fn) (crosBody hy x c i) (crosBody hy y c i)
    (List.range hy.nbath) _ _ (by rw [MatD.fn_tab, dag_zero])
    fun b b' k hk hb => crosBody_conj hy hr hpos c hc x y hxy i hi b b' k (List.mem_range.mp hk) hb
  -- the Hamiltonian term is an imaginary multiple of a commutator with the Hermitian `H`, the damping factor is real
  simp only [heomGen_get hy y c i (hxy.2.1 ▸ hi), heomGen_get hy x c i (hxy.1 ▸ hi), MatD.fn_tab, hfold,
    hxy.2.2 i hi, dag_matAdd, dag_matScale, dag_scale_comm hr.ii hr.H, star_neg, hc, star_bigGamma _ hr.gamL]

theorem adoAdd_conj (N : Nat) (a a' b b' : Ado α n) (h : Conj N a b) (h' : Conj N a' b') :
    Conj N (adoAdd a a') (adoAdd b b') := by
  refine ⟨(size_adoAdd a a').trans h.1, (size_adoAdd b b').trans h.2.1, fun i hi => ?_⟩
  rw [adoAdd_get b b' i (h.2.1 ▸ hi), adoAdd_get a a' i (h.1 ▸ hi), MatD.fn_tab, MatD.fn_tab,
    h.2.2 i hi, h'.2.2 i hi, dag_matAdd]

/-- **the reduced density matrix stays Hermitian**: Hermitian Hamiltonian and coupling operators, real bath parameters,
real step, Hermitian initial state -/
theorem heom_hermitian_preserved (hy : Hier α n) (hr : RealHier hy) (hpos : 0 < hy.h.length) (dt : α) (hdt : star dt = dt)
    (L nt : Nat) (rho0 : Fin n → Fin n → α) (h0 : dag rho0 = rho0) :
    ∀ ρ ∈ heomPropagate hy dt L nt rho0, dag ρ.fn = ρ.fn := by
  intro ρ hρ
  obtain ⟨a, ha, rfl⟩ := List.mem_map.mp hρ
  -- the trajectory is its own conjugate
  have h00 : Conj hy.h.length (ado0 hy rho0) (ado0 hy rho0) :=
    ⟨size_ado0 hy rho0, size_ado0 hy rho0, fun i hi => by
      rw [ado0_get hy rho0 i hi, apply_ite MatD.fn, MatD.fn_tab, MatD.fn_tab, apply_ite dag, h0, dag_zero]⟩
  have hrel := taylorTrajectory_rel (heomGen hy 0) adoAdd (heomGen hy 0) adoAdd dt (Conj hy.h.length)
    (fun l => heomGen_conj hy hr hpos _ (by rw [star_div₀, hdt, star_natCast]))
    (adoAdd_conj _)
    L 1 nt _ _ h00
  exact ((List.forall₂_same.mp hrel a ha).2.2 0 hpos).symm

/-- **valid states** for the hierarchy the package generates (`hinds N depth`, any number of baths and depth): the
reduced density matrix keeps its trace and stays Hermitian at every stored time -/
theorem heom_valid_states (hy : Hier α n) (N depth : Nat) (hh : hy.h = hinds N depth) (hr : RealHier hy)
    (dt : α) (hdt : star dt = dt) (L nt : Nat) (rho0 : Fin n → Fin n → α) (h0 : dag rho0 = rho0) :
    ∀ ρ ∈ heomPropagate hy dt L nt rho0, trace ρ.fn = trace rho0 ∧ dag ρ.fn = ρ.fn := by
  have hpos : 0 < hy.h.length := hh ▸ hinds_pos N depth
  exact fun ρ hρ => ⟨heom_trace_conserved hy (hh ▸ hinds_first_zero N depth) hpos dt L nt rho0 ρ hρ,
    heom_hermitian_preserved hy hr hpos dt hdt L nt rho0 h0 ρ hρ⟩

/-- `heom_zero_coupling_is_closed` for the hierarchy the package generates (`hinds N depth`) -/
theorem heom_zero_coupling (hy : Hier α n) (N depth : Nat) (hh : hy.h = hinds N depth)
    (hl : ∀ kk, kk < hy.nbath → hy.lam[kk]! = 0) (dt : α) (L nt : Nat) (rho0 : Fin n → Fin n → α) :
    heomPropagate hy dt L nt rho0 = taylorTrajectory (genH hy.ii hy.HH) madd dt L 1 nt (MatD.tab rho0) :=
  heom_zero_coupling_is_closed hy (hh ▸ hinds_first_zero N depth) (hh ▸ hinds_pos N depth) hl dt L nt rho0

/-- a two-level system with one bath, depth 2, over ℂ -/
noncomputable def demoHier : Hier ℂ 2 :=
  { nbath := 1, h := hinds 1 2,
    HH := fun a b => if a = b then 0 else 1,
    Vs := #[fun a b => if a = 1 ∧ b = 1 then 1 else 0],
    lam := #[3], gamma := #[2], kBT := 5, ii := Complex.I, two := 2 }

/-- non-vacuity of `RealHier`, `hpos`, `hz` -/
example : RealHier demoHier ∧ 0 < demoHier.h.length ∧ (∀ x ∈ demoHier.h[0]?.getD [], x = 0) := by
  have h1 : ∀ kk, kk < demoHier.nbath → kk = 0 := fun _ => Nat.lt_one_iff.mp
  exact ⟨⟨Complex.conj_I, Complex.conj_ofNat 2, Complex.conj_ofNat 5, fun kk hk => h1 kk hk ▸ Complex.conj_ofNat 3,
    fun kk hk => h1 kk hk ▸ Complex.conj_ofNat 2, fun x hx => List.mem_singleton.mp hx ▸ Complex.conj_ofNat 2,
    funext₂ fun a b => (apply_ite star ..).trans (if_congr eq_comm (star_zero ℂ) (star_one ℂ)),
    fun kk hk => h1 kk hk ▸ funext₂ fun a b => (apply_ite star ..).trans (if_congr and_comm (star_one ℂ) (star_zero ℂ))⟩,
    hinds_pos 1 2, hinds_first_zero 1 2⟩
end QV.C16
