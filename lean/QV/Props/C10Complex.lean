import QV.Props.C10

/-!
# C10 — displacements with an imaginary part: the shift operator is unitary

`operator_factory.shift_operator(d)` exponentiates `(d·a† − conj(d)·a)/√2` (`a† = aᴴ`).  For a complex displacement
`d` (a shift in momentum as well as in position; the package's own docstring uses `shift_operator(1j)`) the generator
is anti-Hermitian, so the (untruncated) matrix is exactly unitary for every `d` and every basis size.  A generator
written as `d·(a† − a)/√2` (the seeded change C10-12) is anti-Hermitian only for real `d`.
-/
namespace QV.C10
open NormedSpace Matrix

/-- the argument of `exp_skew_orthogonal` (`Props/C10.lean`) with `ᴴ` for `ᵀ` -/
theorem exp_skewHermitian_unitary {n : Type} [Fintype n] [DecidableEq n] (A : Matrix n n ℂ) (h : Aᴴ = -A) :
    exp A * (exp A)ᴴ = 1 := by
  rw [← Matrix.exp_conjTranspose, h, Matrix.exp_neg]
  exact Matrix.mul_nonsing_inv _ ((Matrix.isUnit_iff_isUnit_det _).mp (Matrix.isUnit_exp A))

theorem shift_generator_skewHermitian {n : Type} [Fintype n] (a : Matrix n n ℂ) (d : ℂ) (c : ℝ) :
    ((c : ℂ) • (d • aᴴ - (starRingEnd ℂ d) • a))ᴴ = -((c : ℂ) • (d • aᴴ - (starRingEnd ℂ d) • a)) := by
  simp only [Matrix.conjTranspose_smul, Matrix.conjTranspose_sub, Matrix.conjTranspose_conjTranspose, ← starRingEnd_apply,
    Complex.conj_conj, Complex.conj_ofReal]
  rw [← smul_neg, neg_sub]

/-- **`shift_operator(d)` is unitary for every complex displacement** -/
theorem shift_operator_unitary {n : Type} [Fintype n] [DecidableEq n] (a : Matrix n n ℂ) (d : ℂ) (c : ℝ) :
    exp ((c : ℂ) • (d • aᴴ - (starRingEnd ℂ d) • a)) * (exp ((c : ℂ) • (d • aᴴ - (starRingEnd ℂ d) • a)))ᴴ = 1 :=
  exp_skewHermitian_unitary _ (shift_generator_skewHermitian a d c)

/-- the generator `d·(a† − a)` is *not* anti-Hermitian for imaginary `d` (witness: `a = [[0,1],[0,0]]`, `d = i`) -/
theorem naive_generator_not_skew :
    ((Complex.I • ((!![0, 1; 0, 0] : Matrix (Fin 2) (Fin 2) ℂ)ᴴ - !![0, 1; 0, 0]))ᴴ)
      ≠ -(Complex.I • ((!![0, 1; 0, 0] : Matrix (Fin 2) (Fin 2) ℂ)ᴴ - !![0, 1; 0, 0])) := by
  intro h
  -- the imaginary parts of the entries `(0, 1)` differ
  have h01 := congrArg Complex.im (congrFun (congrFun h 0) 1)
  norm_num at h01

end QV.C10
