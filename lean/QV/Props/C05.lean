import QV.Model.C05
import Mathlib.Tactic.FieldSimp

/-!
# C05 — energy-units management is transparent and contexts restore units
`energyUnits`, `reciprocalUnits`, `facKeys`, `unitFactors` are re-extracted from managers.py / units.py on every run
(`facKeys`: the keys of `conversion_facs_energy`; `unitFactors`: the unit names among them whose factor is the literal
`1.0`).  Second half: a `Bracketed` program of contexts leaves `visible` as it found it (`contexts_restore`, by
induction over `Bracketed`), all units in play being `Known`.
-/
namespace QV.C05
open QV.Gen.C05

theorem every_unit_has_a_factor : ∀ u ∈ energyUnits, u ∈ facKeys := by decide
theorem reciprocal_units_are_units : ∀ u ∈ reciprocalUnits, u ∈ energyUnits := by decide
theorem internal_units_have_factor_one : "1/fs" ∈ unitFactors ∧ "int" ∈ unitFactors := by decide

section
variable {K : Type} [Field K] (fac : String → K)

/-- **round trip in one unit**: what is supplied under `u` reads back under `u` unchanged -/
theorem get_set_same (u : String) (x : K) (hf : fac u ≠ 0) (hx : x ≠ 0) :
    toCurrent fac u (toInternal fac u x) = x := by
  unfold toCurrent toInternal
  split_ifs <;> field_simp

/-- **exact conversion law**, ordinary units: supplied under `u`, read under `u'` -/
theorem get_set_ordinary (u u' : String) (x : K) (hu : u ∉ reciprocalUnits) (hu' : u' ∉ reciprocalUnits) :
    toCurrent fac u' (toInternal fac u x) = x * fac u / fac u' := by
  simp only [toCurrent, toInternal, hu, hu', if_false]

theorem get_set_from_reciprocal (u u' : String) (x : K) (hu : u ∈ reciprocalUnits) (hu' : u' ∉ reciprocalUnits) :
    toCurrent fac u' (toInternal fac u x) = 1 / (x * fac u * fac u') := by
  simp only [toCurrent, toInternal, hu, hu', if_true, if_false]
  rw [div_div, div_div, ← mul_assoc]

theorem get_set_to_reciprocal (u u' : String) (x : K) (hu : u ∉ reciprocalUnits) (hu' : u' ∈ reciprocalUnits) :
    toCurrent fac u' (toInternal fac u x) = 1 / (x * fac u * fac u') := by
  simp only [toCurrent, toInternal, hu, hu', if_true, if_false]
  rw [div_div]

theorem get_set_reciprocal_both (u u' : String) (x : K) (hu : u ∈ reciprocalUnits) (hu' : u' ∈ reciprocalUnits)
    (hx : x ≠ 0) (hf : fac u ≠ 0) :
    toCurrent fac u' (toInternal fac u x) = x * fac u / fac u' := by
  simp only [toCurrent, toInternal, hu, hu', if_true]
  field_simp

/-- `toInternal` takes no argument for the units active when the stored value is read: the statement holds by `rfl` for
that reason alone and says nothing more -/
theorem stored_independent (x : K) (u reading reading' : String) :
    (fun (_ : String) => toInternal fac u x) reading = (fun (_ : String) => toInternal fac u x) reading' := rfl

/-- two inputs describing the same energy in different ordinary units are stored identically -/
theorem stored_same_energy (u u' : String) (x : K) (hu : u ∉ reciprocalUnits) (hu' : u' ∉ reciprocalUnits)
    (hf' : fac u' ≠ 0) :
    toInternal fac u' (toCurrent fac u' (toInternal fac u x)) = toInternal fac u x := by
  simp only [toCurrent, toInternal, hu, hu', if_false]
  field_simp
end

/-- what a block must not change -/
def visible (s : UState) : String × List String × Nat := (s.current, s.backups, s.count)

theorem enter_ok (s : UState) (u : String) (hu : u ∈ energyUnits) :
    (ustep s (.enter u)).1.current = u ∧ (ustep s (.enter u)).1.backups = s.current :: s.backups ∧
    (ustep s (.enter u)).1.count = s.count + 1 ∧ (ustep s (.enter u)).1.flag = true := by
  simp [ustep, rawSet, hu]

/-- `exit` restores through `rawSet`, which refuses an unknown unit -/
def Known (s : UState) : Prop := s.current ∈ energyUnits ∧ ∀ b ∈ s.backups, b ∈ energyUnits

theorem Known_step (s : UState) (hk : Known s) (op : UOp) (hraw : ∀ u, op ≠ .rawSet u) (hun : op ≠ .rawUnset) :
    Known (ustep s op).1 := by
  cases op with
  | enter u =>
    by_cases hu : u ∈ energyUnits
    · simp only [ustep, rawSet, hu, if_true]
      exact ⟨hu, List.forall_mem_cons.mpr hk⟩
    · simpa [ustep, hu] using hk
  | exit =>
    cases hb : s.backups with
    | nil => simpa [ustep, hb] using hk
    | cons b rest =>
      have hbk := hk.2
      rw [hb, List.forall_mem_cons] at hbk
      simp only [ustep, hb, rawSet, hbk.1, if_true]
      exact hbk
  | rawSet u => exact absurd rfl (hraw u)
  | rawUnset => exact absurd rfl hun

theorem Known_of_visible (s s' : UState) (hv : visible s' = visible s) (hk : Known s) : Known s' := by
  simp only [visible, Prod.mk.injEq] at hv
  unfold Known
  rwa [hv.1, hv.2.1]

theorem urun_block (s : UState) (u : String) (body rest : List UOp) :
    urun s (UOp.enter u :: body ++ UOp.exit :: rest) = urun (ustep (urun (ustep s (.enter u)).1 body) .exit).1 rest := by
  simp [urun]

/-- the exit does not look at what is current: if the body has kept the backup stack and the nesting counter, it puts
back what was there when the block was entered -/
theorem exit_restores (s s2 : UState) (hk : Known s) (u : String) (hu : u ∈ energyUnits)
    (hb : s2.backups = (ustep s (.enter u)).1.backups) (hc : s2.count = (ustep s (.enter u)).1.count) :
    visible (ustep s2 .exit).1 = visible s := by
  obtain ⟨_, e2, e3, _⟩ := enter_ok s u hu
  simp [ustep, hb.trans e2, rawSet, hk.1, visible, hc.trans e3]

/-- **a properly nested program of units contexts restores the active units, the stack of backups
and the nesting counter** — for every nesting depth; blocks left through exceptions run the same exit -/
theorem contexts_restore (ops : List UOp) (hb : Bracketed ops) :
    ∀ s, Known s → visible (urun s ops) = visible s ∧ Known (urun s ops) := by
  induction hb with
  | nil => intro s hk; exact ⟨rfl, hk⟩
  | block u body rest hu _ _ ihb ihr =>
    intro s hk
    rw [urun_block]
    obtain ⟨hv, _⟩ := ihb _ (Known_step s hk (.enter u) (by simp) (by simp))
    have hx := exit_restores s _ hk u hu (congrArg (·.2.1) hv) (congrArg (·.2.2) hv)
    obtain ⟨hv4, hk4⟩ := ihr _ (Known_of_visible _ _ hx hk)
    exact ⟨hv4.trans hx, hk4⟩

/-- the flag `_in_energy_units_context` is back to false when the outermost block is left -/
theorem flag_cleared (s : UState) (b : String) (rest : List String) (hb : s.backups = b :: rest) (hc : s.count = 1) :
    (ustep s .exit).1.flag = false := by
  simp [ustep, hb, hc]

/-- the raw single slot is *not* a stack: `set; with …: …; unset` restores the wrong units.
(This is how `Aggregate.build()` used to lose the caller's units.) -/
theorem raw_slot_clobbered :
    (urun { current := "1/cm", backups := [], count := 0, flag := false, saved := none }
      [.rawSet "int", .enter "int", .exit, .rawUnset]).current = "int" := by decide

/-- non-vacuity of `contexts_restore`: a nested program -/
example : Bracketed [.enter "1/cm", .enter "eV", .exit, .enter "nm", .exit, .exit] :=
  .block "1/cm" [.enter "eV", .exit, .enter "nm", .exit] [] (by decide)
    (.block "eV" [] _ (by decide) .nil (.block "nm" [] [] (by decide) .nil .nil)) .nil

end QV.C05
