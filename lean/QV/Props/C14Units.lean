import QV.Props.C14

/-!
# C14 — the Boltzmann exponents do not depend on the energy units, as long as kT is in the same units
`_thermal_population` forms `-(E_i - E_min)/kT` from the diagonal of the Hamiltonian *as presented in the current
energy units*; other units multiply energies, reorganisation energies and `kT` by the same positive factor `c`.  Mixing
units was the defect repaired in `9baa191`.
-/
namespace QV.C14

theorem foldl_min_scale (c : ℝ) (hc : 0 < c) : ∀ (xs : List ℝ) (m : ℝ),
    (xs.map (c * ·)).foldl (fun m y => if y < m then y else m) (c * m)
      = c * xs.foldl (fun m y => if y < m then y else m) m := by
  rw [minStep_eq]
  intro xs m
  rw [List.foldl_map]
  exact List.foldl_hom (c * ·) fun x y => (mul_min_of_nonneg x y hc.le).symm

theorem listMin_scale (c : ℝ) (hc : 0 < c) (l : List ℝ) : listMin (l.map (c * ·)) = c * listMin l := by
  cases l with
  | nil => simp [listMin]
  | cons x xs => simpa [listMin] using foldl_min_scale c hc xs x

theorem zipWith_sub_scale (c : ℝ) : ∀ (a b : List ℝ),
    (a.map (c * ·)).zipWith (· - ·) (b.map (c * ·)) = (a.zipWith (· - ·) b).map (c * ·) := fun a b => by
  simp only [List.zipWith_map, List.map_zipWith, mul_sub]

/-- **mixed units** (energies in the current units, `kT` in internal ones): every exponent is multiplied by `c` -
the state handed out is the Boltzmann state of the temperature `T/c` -/
theorem thermalPlan_mixed_units (temp kBT c : ℝ) (ht : temp ≠ 0) (hc : 0 < c)
    (diagH subtract : List ℝ) (start : Nat) :
    (thermalPlan temp kBT (diagH.map (c * ·)) (subtract.map (c * ·)) start).exps
      = (thermalPlan temp kBT diagH subtract start).exps.map (c * ·) := by
  simp only [thermalPlan, ht, if_false]
  rw [← List.map_drop, zipWith_sub_scale, listMin_scale c hc, List.map_map, List.map_map]
  apply List.map_congr_left
  intro e _
  simp only [Function.comp]
  rw [← mul_sub, ← mul_neg, mul_div_assoc]

/-- **units invariance**: energies, subtracted reorganisation energies and `kT` all multiplied by the same `c > 0`
(the same quantities in other energy units) give the same exponents -/
theorem thermalPlan_units_invariant (temp kBT c : ℝ) (ht : temp ≠ 0) (hc : 0 < c) (hk : kBT ≠ 0)
    (diagH subtract : List ℝ) (start : Nat) :
    (thermalPlan temp (c * kBT) (diagH.map (c * ·)) (subtract.map (c * ·)) start).exps
      = (thermalPlan temp kBT diagH subtract start).exps := by
  rw [thermalPlan_mixed_units temp (c * kBT) c ht hc]
  simp only [thermalPlan, ht, if_false, List.map_map]
  exact List.map_congr_left fun e _ => (mul_div_assoc ..).symm.trans (mul_div_mul_left _ _ hc.ne')

/-- non-vacuity / the repaired input in small: two levels `0, 1`, `kT = 1`, units factor `c = 5000` (internal -> 1/cm) -/
example : (thermalPlan (300 : ℝ) 1 ([0, 1].map ((5000 : ℝ) * ·)) ([0, 0].map ((5000 : ℝ) * ·)) 0).exps = [0, -5000] := by
  rw [thermalPlan_mixed_units 300 1 5000 (by norm_num) (by norm_num)]
  simp [thermalPlan, listMin]
  norm_num

end QV.C14
