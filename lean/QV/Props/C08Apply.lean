import QV.Props.C08

/-!
# C08 — applying the evolution superoperator is propagating the state
`EvolutionSuperOperator` builds its one-step tensor by propagating every matrix unit.  Because every generator of the
density-matrix propagator acts on the state as a 4-index tensor (is linear in the state), the tensor built that way,
applied to ANY state, is the propagated state.
-/
namespace QV.Prop
open QV.C01 Finset

variable {α : Type} [Field α] {n : Nat}

def ActsAs (F : MatD α n n → MatD α n n) (T : Tens α n) : Prop :=
  ∀ ρ a b, (F ρ).fn a b = ∑ p, ∑ q, T a b p q * ρ.fn p q

theorem sum_delta2 (f : Fin n → Fin n → α) (a b : Fin n) :
    (∑ p, ∑ q, if a = p ∧ b = q then f p q else 0) = f a b :=
  sum_sum_ite_and a b f

theorem actsAs_id : ActsAs (fun ρ : MatD α n n => ρ) (fun a b p q => if a = p ∧ b = q then 1 else 0) := by
  intro ρ a b
  simp only [ite_mul, one_mul, zero_mul]
  exact (sum_sum_ite_and a b _).symm

theorem actsAs_madd {F G : MatD α n n → MatD α n n} {T S : Tens α n} (hF : ActsAs F T) (hG : ActsAs G S) :
    ActsAs (fun ρ => madd (F ρ) (G ρ)) (fun a b p q => T a b p q + S a b p q) := by
  intro ρ a b
  simp only [madd_fn, hF ρ a b, hG ρ a b, add_mul, Finset.sum_add_distrib]

theorem actsAs_comp {F G : MatD α n n → MatD α n n} {T S : Tens α n} (hF : ActsAs F T) (hG : ActsAs G S) :
    ActsAs (fun ρ => F (G ρ)) (fun a b p q => ∑ c, ∑ d, T a b c d * S c d p q) := by
  intro ρ a b
  simp only [hF (G ρ) a b, hG ρ, Finset.mul_sum, Finset.sum_mul]
  exact sum4_comm_congr fun _ _ _ _ => (mul_assoc _ _ _).symm

/-- linear in the state: every `gen c` acts as some 4-index tensor -/
def LinearGen (gen : α → MatD α n n → MatD α n n) : Prop := ∀ c, ∃ G : Tens α n, ActsAs (gen c) G

/-- both registers of the loop are images of the start state under maps that act as 4-index tensors, and a pass keeps
that: the generator composes with the first (`actsAs_comp`), the accumulation adds (`actsAs_madd`) -/
theorem taylorLoop_actsAs (gen : α → MatD α n n → MatD α n n) (hg : LinearGen gen) (dt : α) :
    ∀ (cnt l : Nat) (F1 F2 : MatD α n n → MatD α n n) (T1 T2 : Tens α n), ActsAs F1 T1 → ActsAs F2 T2 →
      ∃ T, ActsAs (fun ρ => taylorLoop gen madd dt l cnt (F1 ρ) (F2 ρ)) T := by
  intro cnt
  induction cnt with
  | zero => intro l F1 F2 T1 T2 _ h2; exact ⟨T2, h2⟩
  | succ cnt ih =>
    intro l F1 F2 T1 T2 h1 h2
    obtain ⟨G, hG⟩ := hg (dt / (l : α))
    have h1' := actsAs_comp hG h1
    exact ih (l + 1) _ _ _ _ h1' (actsAs_madd h2 h1')

theorem taylorStep_actsAs (gen : α → MatD α n n → MatD α n n) (hg : LinearGen gen) (dt : α) (L : Nat) :
    ∃ T, ActsAs (taylorStep gen madd dt L) T :=
  taylorLoop_actsAs gen hg dt L 1 _ _ _ _ actsAs_id actsAs_id

/-- **one dense step**: the tensor assembled from the propagated matrix units, applied to any state, is the
propagated state -/
theorem apply_elemStep (gen : α → MatD α n n → MatD α n n) (hg : LinearGen gen) (dtd : α) (L : Nat) (ρ : MatD α n n) :
    tensApply (elemStep gen dtd L).fn ρ.fn = (taylorStep gen madd dtd L ρ).fn := by
  obtain ⟨T, hT⟩ := taylorStep_actsAs gen hg dtd L
  -- the assembled tensor is `T`: a matrix unit picks one element
  have hel : (elemStep gen dtd L).fn = T := by
    funext a b p q
    simp only [elemStep, TensD.fn_tab, hT (MatD.tab (unitMat p q)) a b, MatD.fn_tab, unitMat, mul_ite, mul_one, mul_zero]
    exact sum_sum_ite_and' p q _
  funext a b
  rw [hel, hT ρ a b, tensApply_eq]

/-- `Ndense = k + 1` dense steps composed with `tensordot` (`_one_step_with_dense_TimeIndep`) -/
def denseT (U1 : TensD α n) (k : Nat) : TensD α n := @denseStep (TensD α n) tensMul U1 k

theorem taylorSteps_succ_last (gen : α → MatD α n n → MatD α n n) (dt : α) (L k : Nat) (x : MatD α n n) :
    taylorSteps gen madd dt L (k + 1) x = taylorStep gen madd dt L (taylorSteps gen madd dt L k x) :=
  taylorSteps_add gen madd dt L k 1 x

/-- **a time-axis step**: the composed tensor applied to any state is the state after `k+1` elementary steps -/
theorem apply_denseT (gen : α → MatD α n n → MatD α n n) (hg : LinearGen gen) (dtd : α) (L k : Nat) (ρ : MatD α n n) :
    tensApply (denseT (elemStep gen dtd L) k).fn ρ.fn = (taylorSteps gen madd dtd L (k + 1) ρ).fn := by
  induction k with
  | zero => exact apply_elemStep gen hg dtd L ρ
  | succ k ih =>
    rw [taylorSteps_succ_last gen dtd L (k + 1) ρ, ← apply_elemStep gen hg, ← ih, ← tensApply_tcomp]
    -- `denseT U (k + 1)` is `tcomp U (denseT U k)` by definition
    rfl

theorem genTensor_linear (ii : α) (H : Mat α n) (R : Tens α n) : LinearGen (genTensor ii H R) := by
  intro c
  refine ⟨fun a b p q => -((ii * c) * ((if b = q then H a p else 0) - (if a = p then H q b else 0))) + c * R a b p q,
    fun ρ a b => ?_⟩
  -- `(Hρ)_ab = Σ_pq δ_bq H_ap ρ_pq` and `(ρH)_ab = Σ_pq δ_ap H_qb ρ_pq`
  simp only [genTensor_fn, comm, matMul_eq_mul, tensApply_eq, add_mul, neg_mul, sub_mul, mul_assoc, ite_mul, zero_mul,
    sum_add_distrib, sum_neg_distrib, sum_sub_distrib, ← mul_sum, Fintype.sum_ite_eq, sum_ite_irrel, sum_const_zero,
    mul_comm (ρ.fn _ _)]

/-- **`apply(U(t), ρ)` is `propagate(ρ)`** for the propagator with a Hamiltonian and a relaxation tensor -/
theorem apply_eq_propagate (ii : α) (H : Mat α n) (R : Tens α n) (dtd : α) (L k : Nat) (ρ : MatD α n n) :
    tensApply (denseT (elemStep (genTensor ii H R) dtd L) k).fn ρ.fn
      = (taylorSteps (genTensor ii H R) madd dtd L (k + 1) ρ).fn :=
  apply_denseT _ (genTensor_linear ii H R) dtd L k ρ

end QV.Prop
