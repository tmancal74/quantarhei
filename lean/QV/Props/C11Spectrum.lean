import QV.Props.C11
import Mathlib.Algebra.BigOperators.Group.Finset.Basic
import Mathlib.Logic.Equiv.Fintype

/-!
# C11 — the assembled spectrum and its symmetry relations

`AbsSpectrumCalculator._calculate_aggregate` builds the spectrum as

  `A(j) = Σ_a |D_a|² · line(c_a, ω_a)(j)`,   `D_a = Σ_k S[k,a] d_k`,   `c_a = Σ_kl S[k,a]² S[l,a]² C_kl`

(`DD.dipole_strength(0,a)`, `_excitonic_coft`, `one_transition_spectrum`).  The line-shape map
`line` (cumulant exponent, `hfft`, slicing — the index map of `QV.Props.C11`) is left abstract: the
relations hold for every such map.  That the code assembles the spectrum in this way is what the harness
checks sample by sample (`calculate(raw=True)` against `Σ_a |D_a|²·(Fourier sum of a_a(t))`).
-/
namespace QV.C11

section
variable {α : Type} [CommRing α] {T J : Type}

/-- `_excitonic_coft`: participation-weighted matrix of site correlation functions -/
def excCoft {n : Nat} (S : Fin n → Fin n → α) (c : Fin n → Fin n → T → α) (a : Fin n) : T → α :=
  fun t => ∑ k, ∑ l, (S k a) ^ 2 * (S l a) ^ 2 * c k l t

/-- independent baths (`C_kl = 0` for `k ≠ l`): the weights are the fourth powers -/
theorem excCoft_diagonal {n : Nat} (S : Fin n → Fin n → α) (cs : Fin n → T → α) (a : Fin n) (t : T) :
    excCoft S (fun k l => if k = l then cs k else fun _ => 0) a t = ∑ k, (S k a) ^ 4 * cs k t := by
  simp only [excCoft]
  refine Finset.sum_congr rfl fun k _ => ?_
  rw [Fintype.sum_eq_single k fun l h => by rw [if_neg h.symm, mul_zero], if_pos rfl]
  ring

def spectrum {n : Nat} (line : (T → α) → α → J → α) (S : Fin n → Fin n → α) (om : Fin n → α)
    (c : Fin n → Fin n → T → α) (d : Fin n → Fin 3 → α) (j : J) : α :=
  ∑ a, strength (excitonDipole S d a) * line (excCoft S c a) (om a) j

theorem excitonDipole_scale {n : Nat} (S : Fin n → Fin n → α) (d : Fin n → Fin 3 → α) (s : α) (a : Fin n) :
    excitonDipole S (fun k i => s * d k i) a = fun i => s * excitonDipole S d a i := by
  funext i
  simp only [excitonDipole, sumFin_eq_sum, Finset.mul_sum, mul_left_comm]

/-- **dipole scaling**: a common factor `s` on all site dipoles multiplies every sample by `s²` -/
theorem spectrum_scale {n : Nat} (line : (T → α) → α → J → α) (S : Fin n → Fin n → α) (om : Fin n → α)
    (c : Fin n → Fin n → T → α) (d : Fin n → Fin 3 → α) (s : α) (j : J) :
    spectrum line S om c (fun k i => s * d k i) j = s ^ 2 * spectrum line S om c d j := by
  simp only [spectrum, Finset.mul_sum, excitonDipole_scale, strength_scale, mul_assoc]

theorem excitonDipole_rotate {n : Nat} (S : Fin n → Fin n → α) (d : Fin n → Fin 3 → α)
    (Q : Fin 3 → Fin 3 → α) (a : Fin n) :
    excitonDipole S (fun k => rotate Q (d k)) a = rotate Q (excitonDipole S d a) := by
  funext i
  simp only [excitonDipole, rotate, matVec, sumFin_eq_sum, Finset.mul_sum, mul_left_comm]
  exact Finset.sum_comm

/-- **common rotation** of all dipoles (couplings, hence `S`, `ω`, unchanged — for point-dipole couplings
that is `dot_rotate` applied to the geometry factors): every sample is unchanged -/
theorem spectrum_rotate {n : Nat} (line : (T → α) → α → J → α) (S : Fin n → Fin n → α) (om : Fin n → α)
    (c : Fin n → Fin n → T → α) (d : Fin n → Fin 3 → α) (Q : Fin 3 → Fin 3 → α)
    (hQ : ∀ i j, ∑ k, Q k i * Q k j = if i = j then 1 else 0) (j : J) :
    spectrum line S om c (fun k => rotate Q (d k)) j = spectrum line S om c d j := by
  simp only [spectrum, excitonDipole_rotate, strength_rotate Q hQ]

/-- **relabelling of the molecules**: the same system with its sites listed in another order (`σ`):
rows of the eigenvector matrix, dipoles and baths are permuted together; every sample is unchanged -/
theorem spectrum_relabel {n : Nat} (line : (T → α) → α → J → α) (S : Fin n → Fin n → α) (om : Fin n → α)
    (c : Fin n → Fin n → T → α) (d : Fin n → Fin 3 → α) (σ : Equiv.Perm (Fin n)) (j : J) :
    spectrum line (fun k a => S (σ k) a) om (fun k l => c (σ k) (σ l)) (fun k => d (σ k)) j
      = spectrum line S om c d j := by
  refine Finset.sum_congr rfl fun a _ => ?_
  -- the exciton dipole and the exciton correlation function are sums over the sites, reindexed by `σ`
  refine congrArg₂ (fun D E => strength D * line E (om a) j) (funext fun i => ?_) (funext fun t => ?_)
  · simp only [excitonDipole, sumFin_eq_sum]
    exact Fintype.sum_equiv σ _ _ fun k => rfl
  · exact Fintype.sum_equiv σ _ _ fun k => Fintype.sum_equiv σ _ _ fun l => rfl

/-- the order in which the eigenstates come out of the diagonalisation (e.g. among degenerate ones) does
not matter either -/
theorem spectrum_reorder_excitons {n : Nat} (line : (T → α) → α → J → α) (S : Fin n → Fin n → α)
    (om : Fin n → α) (c : Fin n → Fin n → T → α) (d : Fin n → Fin 3 → α) (π : Equiv.Perm (Fin n)) (j : J) :
    spectrum line (fun k a => S k (π a)) (fun a => om (π a)) c d j = spectrum line S om c d j :=
  Equiv.sum_comp π fun b => strength (excitonDipole S d b) * line (excCoft S c b) (om b) j

/-- **sum rule for the integral**: when every line integrates (sums over the returned samples) to the same
value `I` — the raw spectrum without the frequency prefactor: `I = 2π/Δω`-normalised area of
`Re ∫ e^{-g(t)} e^{i(ω-ω_a)t}dt`, independent of `a` — the integral of the spectrum is `I·Σ_k |d_k|²`
whatever the couplings (orthogonal `S`) -/
theorem spectrum_integral [Fintype J] {n : Nat} (line : (T → α) → α → J → α) (S : Fin n → Fin n → α)
    (hS : ∀ k l, ∑ a, S k a * S l a = if k = l then 1 else 0) (om : Fin n → α) (c : Fin n → Fin n → T → α)
    (d : Fin n → Fin 3 → α) (I : α) (hI : ∀ a, ∑ j, line (excCoft S c a) (om a) j = I) :
    ∑ j, spectrum line S om c d j = I * ∑ k, strength (d k) := by
  simp only [spectrum]
  rw [Finset.sum_comm]
  simp only [← Finset.mul_sum, hI, ← Finset.sum_mul, sum_rule S hS d]
  exact mul_comm _ _

/-- uncoupled sites (`S = 1`): the spectrum is the sum of the monomer lines -/
theorem spectrum_uncoupled {n : Nat} (line : (T → α) → α → J → α) (om : Fin n → α) (c : Fin n → Fin n → T → α)
    (d : Fin n → Fin 3 → α) (j : J) :
    spectrum line (fun k a => if k = a then (1 : α) else 0) om c d j
      = ∑ a, strength (d a) * line (c a a) (om a) j := by
  refine Finset.sum_congr rfl fun a _ => ?_
  -- exciton `a` has the dipole and the correlation function of site `a`
  refine congrArg₂ (fun D E => strength D * line E (om a) j) (funext fun i => ?_) (funext fun t => ?_)
  · simp [excitonDipole, sumFin_eq_sum]
  · simp [excCoft]
end

/-- non-vacuity: a two-site system over ℤ with an explicit line map -/
example : spectrum (n := 2) (T := Unit) (J := Unit) (fun cf w _ => cf () + w)
    (fun k a => if k = a then (1 : Int) else 0) (fun a => ((a : Nat) : Int)) (fun k l _ => if k = l then ((k : Nat) : Int) + 1 else 0)
    (fun k i => if (i : Nat) = (k : Nat) then 2 else 0) () = 4 * 1 + 4 * 3 := by decide

end QV.C11
