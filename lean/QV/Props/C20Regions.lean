import QV.Model.C20Regions

/-!
# C20 — nested parallel regions
Library routines open a parallel region of their own inside the region of the calling script.  The bookkeeping is a
counter: properly nested regions bring level and region count back to where they were, so after a nested region is
closed the outer region distributes exactly as before (`distributes` is a function of the level alone), and inside a
nested region (level two or more) nothing is distributed a second time.
-/
namespace QV.C20

theorem rstep_start_finish (active : Bool) (s : RState) :
    rstep active (rstep active s .start) .finish = s := by
  cases s
  cases active <;> simp [rstep] <;> omega

theorem nested_restores (active : Bool) (ops : List ROp) (h : Nested ops) : ∀ s, rrun active s ops = s := by
  induction h with
  | nil => intro s; rfl
  | block body rest _ _ ihb ihr =>
    intro s
    simp only [rrun, List.foldl_cons, List.foldl_append] at ihb ihr ⊢
    rw [ihb, rstep_start_finish, ihr]

theorem outer_distributes_after_nested (active : Bool) (s : RState) (body : List ROp) (h : Nested body) :
    distributes (rrun active s (ROp.start :: body ++ [ROp.finish])) = distributes s := by
  rw [nested_restores active _ (.block body [] h .nil) s]

theorem first_level_distributes_second_does_not (r : Int) :
    distributes (rstep true { level := 0, region := r } .start) = true ∧
    distributes (rstep true (rstep true { level := 0, region := r } .start) .start) = false := by
  simp [distributes, rstep]

/-- without MPI (or with one process) whatever the level was set to decides -/
theorem inactive_level_constant (s : RState) (ops : List ROp) : (rrun false s ops).level = s.level := by
  induction ops generalizing s with
  | nil => rfl
  | cons op ops ih =>
    simp only [rrun, List.foldl_cons] at *
    rw [ih]
    cases op <;> simp [rstep]

/-- a `finish` that lowers the level only when it is one (the seeded change C20-13): after `start start finish` the level
is still two, the outer region no longer distributes -/
theorem finish_only_at_level_one_witness :
    let bad : RState → ROp → RState := fun s op => match op with
      | .start => { level := s.level + 1, region := s.region + 1 }
      | .finish => { level := if s.level = 1 then s.level - 1 else s.level, region := s.region - 1 }
    distributes ([ROp.start, ROp.start, ROp.finish].foldl bad { level := 0, region := 0 }) = false := by
  decide

example : Nested [.start, .start, .finish, .start, .finish, .finish] :=
  Nested.block [.start, .finish, .start, .finish] [] (Nested.block [] [.start, .finish] .nil (Nested.block [] [] .nil .nil)) .nil

end QV.C20
