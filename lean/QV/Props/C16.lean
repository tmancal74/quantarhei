import QV.Model.C16
import Mathlib.Algebra.BigOperators.Group.List.Basic
import Mathlib.Data.List.Nodup
import Mathlib.Tactic.Ring  -- no `ring` below: brings the order on `ℕ`, and the `Zero ℕ` instance `List.sum` is read with

/-!
# C16 — hierarchical equations: complete index set, consistent links
Theorems about the transcription of `KTHierarchy.generate_indices` /
`_make_nmp1`, for every number of baths `N` and every depth.
-/
namespace QV.C16

theorem inc_length (l : List Nat) (n : Nat) : (inc l n).length = l.length := by
  fun_induction inc l n <;> simp [*]

theorem inc_sum (l : List Nat) (n : Nat) (h : n < l.length) : (inc l n).sum = l.sum + 1 := by
  fun_induction inc l n <;> grind

theorem dec_spec (l : List Nat) (n : Nat) (w : List Nat) (h : dec l n = some w) :
    inc w n = l ∧ w.length = l.length ∧ w.sum + 1 = l.sum ∧ n < l.length := by
  fun_induction dec l n generalizing w <;> grind [inc, Option.map_eq_some_iff]

theorem dec_inc (l : List Nat) (n : Nat) (h : n < l.length) : dec (inc l n) n = some l := by
  fun_induction inc l n <;> grind [dec]

theorem dec_none_iff (l : List Nat) (n : Nat) (h : n < l.length) : dec l n = none ↔ l[n]? = some 0 := by
  fun_induction dec l n <;> simp_all only [Option.map_eq_none_iff, List.getElem?_cons_zero, List.getElem?_cons_succ,
    List.length_cons, List.length_nil, Nat.succ_lt_succ_iff, Nat.not_lt_zero, Option.some.injEq, reduceCtorEq]

theorem exists_dec_of_sum_pos (l : List Nat) (h : 0 < l.sum) : ∃ n w, dec l n = some w := by
  obtain ⟨x, hx, h0⟩ := List.exists_mem_ne_zero_of_sum_ne_zero h.ne'
  obtain ⟨n, hn, rfl⟩ := List.getElem_of_mem hx
  refine ⟨n, Option.ne_none_iff_exists'.mp ?_⟩
  rwa [Ne, dec_none_iff l n hn, List.getElem?_eq_getElem hn, Option.some_inj]

theorem mem_appendNew (acc : List (List Nat)) (x y : List Nat) : x ∈ appendNew acc y ↔ x ∈ acc ∨ x = y := by
  grind [appendNew]

theorem nodup_appendNew (acc : List (List Nat)) (y : List Nat) (h : acc.Nodup) : (appendNew acc y).Nodup := by
  fun_cases appendNew acc y with
  | case1 => exact h
  | case2 hy => exact List.concat_eq_append ▸ h.concat hy

theorem mem_foldl_appendNew (l acc : List (List Nat)) (x : List Nat) :
    x ∈ l.foldl appendNew acc ↔ x ∈ acc ∨ x ∈ l := by
  induction l generalizing acc with
  | nil => simp
  | cons y ys ih => rw [List.foldl_cons, ih, mem_appendNew, List.mem_cons, or_assoc]

theorem nodup_foldl_appendNew (l acc : List (List Nat)) (h : acc.Nodup) :
    (l.foldl appendNew acc).Nodup :=
  List.foldlRecOn l appendNew h fun b hb x _ => nodup_appendNew b x hb

theorem mem_nextLevel (N : Nat) (lvl : List (List Nat)) (v : List Nat) :
    v ∈ nextLevel N lvl ↔ ∃ old ∈ lvl, ∃ nn < N, v = inc old nn := by
  simp only [nextLevel, candidates, mem_foldl_appendNew, List.not_mem_nil, false_or, List.mem_flatMap, List.mem_map,
    List.mem_range, eq_comm]

theorem replicate_zero_iff (N : Nat) (v : List Nat) :
    v = List.replicate N 0 ↔ v.length = N ∧ v.sum = 0 := by
  rw [List.eq_replicate_iff, List.sum_eq_zero_iff_forall_eq_nat]

/-- **level `k` contains exactly the multi-indices over `N` baths of total order `k`** -/
theorem level_complete (N k : Nat) (v : List Nat) : v ∈ level N k ↔ v.length = N ∧ v.sum = k := by
  induction k generalizing v with
  | zero => simp [level, replicate_zero_iff]
  | succ k ih =>
    simp only [level, mem_nextLevel, ih]
    constructor
    · -- raising keeps the length and adds 1 to the order
      rintro ⟨old, ⟨rfl, rfl⟩, nn, hn, rfl⟩
      exact ⟨inc_length old nn, inc_sum old nn hn⟩
    · -- lower a positive entry of `v`: the result is in level `k`, and raising it gives `v` back
      rintro ⟨rfl, h2⟩
      obtain ⟨nn, w, hw⟩ := exists_dec_of_sum_pos v (by omega)
      obtain ⟨rfl, b, c, d⟩ := dec_spec v nn w hw
      exact ⟨w, ⟨b, by omega⟩, nn, d, rfl⟩

/-- **level `k` contains each of its multi-indices exactly once** -/
theorem level_nodup (N k : Nat) : (level N k).Nodup := by
  cases k with
  | zero => simp [level]
  | succ k => exact nodup_foldl_appendNew _ [] List.nodup_nil

/-- the whole index set: every multi-index of total order at most `depth` -/
theorem hinds_complete (N depth : Nat) (v : List Nat) :
    v ∈ hinds N depth ↔ v.length = N ∧ v.sum ≤ depth := by
  simp [hinds, genLevels, level_complete, Nat.lt_succ_iff, and_comm]

/-- inside a level the entries are distinct and of equal total order; from a level to a later one the total order grows -/
theorem hinds_pairwise (N depth : Nat) : (hinds N depth).Pairwise fun a b => a ≠ b ∧ a.sum ≤ b.sum := by
  unfold hinds genLevels
  rw [List.pairwise_flatten, List.pairwise_map, List.forall_mem_map]
  refine ⟨fun k _ => (level_nodup N k).imp_of_mem fun ha hb hne => ?_,
    List.pairwise_lt_range.imp fun hab x hx y hy => ?_⟩
  · rw [level_complete] at ha hb
    exact ⟨hne, by omega⟩
  · rw [level_complete] at hx hy
    exact ⟨ne_of_apply_ne List.sum (by omega), by omega⟩

theorem hinds_nodup (N depth : Nat) : (hinds N depth).Nodup :=
  (hinds_pairwise N depth).imp And.left

theorem hinds_level_ordered (N depth : Nat) :
    (hinds N depth).Pairwise (fun a b => a.sum ≤ b.sum) :=
  (hinds_pairwise N depth).imp And.right

theorem findLast_succ (h : List (List Nat)) (b : Nat) (v : List Nat) :
    findLast h (b + 1) v = if h[b]? = some v then (b : Int) else findLast h b v := by
  simp [findLast, List.range_succ]

theorem findLast_spec (h : List (List Nat)) (b : Nat) (v : List Nat) :
    (findLast h b v = -1 ∧ ∀ i, i < b → h[i]? ≠ some v) ∨
    (∃ m : Nat, findLast h b v = (m : Int) ∧ m < b ∧ h[m]? = some v ∧
      ∀ i, m < i → i < b → h[i]? ≠ some v) := by
  induction b with
  | zero => exact .inl ⟨rfl, nofun⟩
  | succ b ih =>
    rw [findLast_succ]
    split_ifs with hb
    · exact .inr ⟨b, rfl, b.lt_succ_self, hb, fun i h1 h2 => by omega⟩
    · rcases ih with ⟨h1, h2⟩ | ⟨m, h1, h2, h3, h4⟩
      · exact .inl ⟨h1, Nat.forall_lt_succ_right.mpr ⟨h2, hb⟩⟩
      · exact .inr ⟨m, h1, h2.trans b.lt_succ_self, h3, fun i hi1 hi2 =>
          (Nat.lt_succ_iff_lt_or_eq.mp hi2).elim (h4 i hi1) (· ▸ hb)⟩

theorem findLast_bounds (h : List (List Nat)) (b : Nat) (v : List Nat) : -1 ≤ findLast h b v ∧ findLast h b v < b := by
  rcases findLast_spec h b v with ⟨e, _⟩ | ⟨m, e, hm, _⟩ <;> omega

theorem nm1_bounds (h : List (List Nat)) (nn kk : Nat) : -1 ≤ nm1 h nn kk ∧ nm1 h nn kk < (nn : Int) := by
  fun_cases nm1 h nn kk
  · omega  -- no entry `nn`: −1
  · omega  -- `dec v kk = none`, nothing to lower: −1
  · exact findLast_bounds h nn _

theorem np1_bounds (h : List (List Nat)) (nn kk : Nat) : -1 ≤ np1 h nn kk ∧ np1 h nn kk < (h.length : Int) := by
  fun_cases np1 h nn kk
  · omega  -- no entry `nn`: −1
  · exact findLast_bounds h h.length _

theorem nodup_index_unique (h : List (List Nat)) (hn : h.Nodup) (i j : Nat) (v : List Nat)
    (hi : h[i]? = some v) (hj : h[j]? = some v) : i = j :=
  (List.getElem?_inj (List.getElem?_eq_some_iff.mp hi).1 hn).mp (hi.trans hj.symm)

theorem findLast_eq_iff {h : List (List Nat)} (hn : h.Nodup) (b m : Nat) (v : List Nat) :
    findLast h b v = (m : Int) ↔ m < b ∧ h[m]? = some v := by
  obtain ⟨e, h2⟩ | ⟨m', e, hm', h3, _⟩ := findLast_spec h b v
  · exact iff_of_false (by omega) fun hm => h2 m hm.1 hm.2
  · rw [e, Int.natCast_inj]
    exact ⟨fun e => e ▸ ⟨hm', h3⟩, fun hm => nodup_index_unique h hn m' m v h3 hm.2⟩

theorem findLast_of_index (h : List (List Nat)) (hn : h.Nodup) (b i : Nat) (v : List Nat)
    (hi : h[i]? = some v) (hib : i < b) : findLast h b v = (i : Int) :=
  (findLast_eq_iff hn b i v).mpr ⟨hib, hi⟩

theorem exists_index (h : List (List Nat)) (v : List Nat) (hv : v ∈ h) : ∃ i, i < h.length ∧ h[i]? = some v :=
  let ⟨i, hi, e⟩ := List.getElem_of_mem hv
  ⟨i, hi, List.getElem?_eq_some_iff.mpr ⟨hi, e⟩⟩

theorem findLast_eq_neg_one_iff (h : List (List Nat)) (v : List Nat) : findLast h h.length v = -1 ↔ v ∉ h := by
  rw [List.mem_iff_getElem?]
  obtain ⟨e, h2⟩ | ⟨m, e, _, h3, _⟩ := findLast_spec h h.length v
  · exact iff_of_true e fun ⟨i, hi⟩ => h2 i (List.getElem?_eq_some_iff.mp hi).1 hi
  · exact iff_of_false (by omega) fun hv => hv ⟨m, h3⟩

theorem index_lt_of_sum_lt {l : List (List Nat)} (hl : l.Pairwise (fun a b => a.sum ≤ b.sum)) {i j : Nat}
    {v w : List Nat} (hi : l[i]? = some v) (hj : l[j]? = some w) (h : v.sum < w.sum) : i < j := by
  obtain ⟨li, rfl⟩ := List.getElem?_eq_some_iff.mp hi
  obtain ⟨lj, rfl⟩ := List.getElem?_eq_some_iff.mp hj
  by_contra hge
  rcases Nat.eq_or_lt_of_le (Nat.le_of_not_lt hge) with rfl | hlt
  · exact h.false
  · exact absurd (List.pairwise_iff_getElem.mp hl j i lj li hlt) (Nat.not_le_of_lt h)

variable (N depth : Nat)

theorem np1_eq_iff {nn kk m : Nat} {v : List Nat} (hv : (hinds N depth)[nn]? = some v) :
    np1 (hinds N depth) nn kk = (m : Int) ↔ (hinds N depth)[m]? = some (inc v kk) := by
  simp only [np1, hv, findLast_eq_iff (hinds_nodup N depth)]
  exact and_iff_right_of_imp fun h => (List.getElem?_eq_some_iff.mp h).1

/-- the code searches only among the positions below `nn` (`findLast h nn w`); that loses nothing, because `dec` lowers
the total order by one and `hinds` is sorted by total order (`index_lt_of_sum_lt`) -/
theorem nm1_eq_iff {nn kk m : Nat} {v : List Nat} (hv : (hinds N depth)[nn]? = some v) :
    nm1 (hinds N depth) nn kk = (m : Int) ↔ ∃ w, dec v kk = some w ∧ (hinds N depth)[m]? = some w := by
  simp only [nm1, hv]
  cases hd : dec v kk with
  | none => simp only [reduceCtorEq, false_and, exists_false]
  | some w =>
    simp only [findLast_eq_iff (hinds_nodup N depth), Option.some.injEq, exists_eq_left']
    exact and_iff_right_of_imp fun h =>
      index_lt_of_sum_lt (hinds_level_ordered N depth) h hv (by have := (dec_spec v kk w hd).2.2.1; omega)

/-- **lowering then raising returns to the start** -/
theorem links_down_up (nn kk : Nat) (m : Nat) (h1 : nm1 (hinds N depth) nn kk = (m : Int)) :
    np1 (hinds N depth) m kk = (nn : Int) := by
  cases hv : (hinds N depth)[nn]? with
  | none => simp only [nm1, hv] at h1; omega
  | some v =>
    obtain ⟨w, hd, hw⟩ := (nm1_eq_iff N depth hv).mp h1
    rwa [np1_eq_iff N depth hw, (dec_spec v kk w hd).1]

/-- **raising then lowering returns to the start** -/
theorem links_up_down (nn kk : Nat) (hk : kk < N) (m : Nat) (h1 : np1 (hinds N depth) nn kk = (m : Int)) :
    nm1 (hinds N depth) m kk = (nn : Int) := by
  cases hv : (hinds N depth)[nn]? with
  | none => simp only [np1, hv] at h1; omega
  | some v =>
    have hvl := ((hinds_complete N depth v).mp (List.mem_of_getElem? hv)).1
    rw [nm1_eq_iff N depth ((np1_eq_iff N depth hv).mp h1)]
    exact ⟨v, dec_inc v kk (by omega), hv⟩

/-- **the lowering link is absent exactly when the index has nothing to lower** -/
theorem links_boundary_down (nn kk : Nat) (hk : kk < N) (v : List Nat) (hv : (hinds N depth)[nn]? = some v) :
    nm1 (hinds N depth) nn kk = -1 ↔ v[kk]? = some 0 := by
  obtain ⟨hvl, hvs⟩ := (hinds_complete N depth v).mp (List.mem_of_getElem? hv)
  rw [← dec_none_iff v kk (by omega)]
  cases hd : dec v kk with
  | none => simp only [nm1, hv, hd]
  | some w =>
    obtain ⟨a, b, c, d⟩ := dec_spec v kk w hd
    obtain ⟨i, _, ei⟩ := exists_index _ w ((hinds_complete N depth w).mpr ⟨by omega, by omega⟩)
    rw [(nm1_eq_iff N depth hv).mpr ⟨w, hd, ei⟩]
    exact iff_of_false (by omega) nofun  -- the link is `i ≥ 0`; `some w ≠ none`

/-- **the raising link is absent exactly at the deepest level** -/
theorem links_boundary_up (nn kk : Nat) (hk : kk < N) (v : List Nat) (hv : (hinds N depth)[nn]? = some v) :
    np1 (hinds N depth) nn kk = -1 ↔ v.sum = depth := by
  obtain ⟨hvl, hvs⟩ := (hinds_complete N depth v).mp (List.mem_of_getElem? hv)
  rw [np1, hv, findLast_eq_neg_one_iff, hinds_complete, inc_length, inc_sum v kk (by omega)]
  omega

/-- non-vacuity: two baths, level 2 in generation order -/
example : level 2 2 = [[2, 0], [1, 1], [0, 2]] := by decide

end QV.C16
