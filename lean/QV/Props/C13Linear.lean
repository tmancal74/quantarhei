import QV.Props.C13

/-!
# C13 — the transforms are linear in the data

Consequently the property "equals the direct Fourier sum / returns the original values" is scale free, and any
absolute threshold applied to the values (e.g. discarding an imaginary part "close to zero") breaks it for small data -
the harness therefore uses tolerances relative to the data and data of magnitude 2^-70 … 2^40.
-/
namespace QV.C13

section
variable {α : Type} [CommRing α]

theorem dft_smul {n : Nat} (ζ c : α) (x : Fin n → α) (k : Fin n) :
    dft ζ (fun m => c * x m) k = c * dft ζ x k := by
  simp only [dft, sumFin_eq_sum, Finset.mul_sum, mul_assoc]

theorem dft_add {n : Nat} (ζ : α) (x y : Fin n → α) (k : Fin n) :
    dft ζ (fun m => x m + y m) k = dft ζ x k + dft ζ y k := by
  simp only [dft, sumFin_eq_sum, add_mul, Finset.sum_add_distrib]

theorem roll_smul {n : Nat} (s : Nat) (c : α) (y : Fin n → α) :
    roll s (fun m => c * y m) = fun m => c * roll s y m := rfl

theorem roll_add {n : Nat} (s : Nat) (x y : Fin n → α) :
    roll s (fun m => x m + y m) = fun m => roll s x m + roll s y m := rfl

theorem ftComplete_smul {n : Nat} (ζi dt c : α) (y : Fin n → α) (j : Fin n) :
    ftComplete ζi dt (fun m => c * y m) j = c * ftComplete ζi dt y j := by
  simp only [ftComplete, fftshift, ifftshift, roll_smul, funext (dft_smul ζi c _), mul_assoc]

theorem ftComplete_add {n : Nat} (ζi dt : α) (x y : Fin n → α) (j : Fin n) :
    ftComplete ζi dt (fun m => x m + y m) j = ftComplete ζi dt x j + ftComplete ζi dt y j := by
  simp only [ftComplete, fftshift, ifftshift, roll_add, funext (dft_add ζi _ _), add_mul]

theorem iftComplete_smul {n : Nat} (ζ dt c : α) (y : Fin n → α) (j : Fin n) :
    iftComplete ζ dt (fun m => c * y m) j = c * iftComplete ζ dt y j :=
  ftComplete_smul ζ dt c y j

theorem iftUpper_smul {N : Nat} (ζ d c : α) (F : Fin (2 * N) → α) (k : Fin N) :
    iftUpper ζ d (fun m => c * F m) k = c * iftUpper ζ d F k :=
  iftComplete_smul ζ d c F _

/-- `hc`: the conjugation leaves the constant alone (a real factor) -/
theorem hermExt_smul {N : Nat} (conj : α → α) (hmul : ∀ a b, conj (a * b) = conj a * conj b) (c : α) (hc : conj c = c)
    (y : Fin N → α) (m : Fin (2 * N)) :
    hermExt conj (fun k => c * y k) m = c * hermExt conj y m := by
  simp only [hermExt, hmul, hc, mul_dite, mul_ite, mul_zero]

theorem ftUpper_smul {N : Nat} (conj : α → α) (hmul : ∀ a b, conj (a * b) = conj a * conj b) (c : α) (hc : conj c = c)
    (ζi dt : α) (y : Fin N → α) (j : Fin (2 * N)) :
    ftUpper conj ζi dt (fun k => c * y k) j = c * ftUpper conj ζi dt y j := by
  simp only [ftUpper, fftshift, funext (hermExt_smul conj hmul c hc y), funext (dft_smul ζi c _), roll_smul,
    mul_assoc]

end

/-- non-vacuity: n = 2 over ℤ, ζ = −1 -/
example : ftComplete (α := Int) (n := 2) (-1) 1 (fun m => 3 * (if m = (0 : Fin 2) then 2 else 5)) (1 : Fin 2)
    = 3 * ftComplete (-1) 1 (fun m => if m = (0 : Fin 2) then 2 else 5) (1 : Fin 2) := by decide

end QV.C13
