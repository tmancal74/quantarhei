import QV.Props.C16
import QV.Lemmas.Operators
import QV.Lemmas.TaylorRel

/-!
# C16 — the hierarchy's propagation keeps the trace, and without coupling strength it is the closed-system dynamics
Theorems about the model of `_ado_self_rhs`, `_ado_cros_rhs` and `KTHierarchyPropagator.propagate` (the same executable
definitions the correspondence check runs against the package), over any commutative ring (the propagation, which
divides the step, over any field).
-/
namespace QV.C16
open QV.Prop

theorem getElemB_ofFn {β : Type} [Inhabited β] {m : Nat} (f : Fin m → β) (i : Nat) (h : i < m) :
    (Array.ofFn f)[i]! = f ⟨i, h⟩ := by
  simp [h]

theorem foldl_inv {β γ : Type} (P : β → Prop) (f : β → γ → β) (l : List γ) (b : β) (h0 : P b)
    (hstep : ∀ b x, x ∈ l → P b → P (f b x)) : P (l.foldl f b) :=
  List.foldlRecOn l f h0 fun b hb x hx => hstep b x hx hb

section
variable {α : Type} [CommRing α] [Inhabited α] {n : Nat}

theorem size_selfRhs (hy : Hier α n) (ado : Ado α n) (c : α) (s : Nat) : (selfRhs hy ado c s).size = ado.size :=
  Array.size_ofFn
theorem size_crosRhs (hy : Hier α n) (ado : Ado α n) (c : α) (s : Nat) : (crosRhs hy ado c s).size = ado.size :=
  Array.size_ofFn
theorem size_adoAdd (a b : Ado α n) : (adoAdd a b).size = a.size := Array.size_ofFn
theorem size_heomGen (hy : Hier α n) (ado : Ado α n) (c : α) (s : Nat) : (heomGen hy s c ado).size = ado.size :=
  (size_adoAdd _ _).trans (size_crosRhs hy ado c s)

theorem adoAdd_get (a b : Ado α n) (i : Nat) (h : i < a.size) :
    (adoAdd a b)[i]! = MatD.tab (matAdd (a[i]!).fn ((b[i]!).fn)) := by
  -- `[i]!` of an `Array.ofFn`; likewise `selfRhs_get`, `crosRhs_get`
  unfold adoAdd
  rw [getElemB_ofFn _ i h, getElem!_pos a i h]
  rfl

theorem selfRhs_get (hy : Hier α n) (ado : Ado α n) (c : α) (i : Nat) (h : i < ado.size) :
    (selfRhs hy ado c 0)[i]! = MatD.tab (matScale (-c) (matAdd (matScale hy.ii
      (matSub (matMul hy.HH (ado[i]!).fn) (matMul (ado[i]!).fn hy.HH)))
      (matScale (bigGamma hy.gamma.toList (hy.h[i]?.getD [])) (ado[i]!).fn))) := by
  unfold selfRhs
  rw [getElemB_ofFn _ i h, getElem!_pos ado i h]
  rfl

/-- the loop body of `_ado_cros_rhs` for element `nn` (bath `kk`) -/
def crosBody (hy : Hier α n) (ado : Ado α n) (c : α) (nn : Nat) (acc : MatD α n n) (kk : Nat) : MatD α n n :=
  let v := hy.h[nn]?.getD []
  let nk : Nat := v[kk]?.getD 0
  let jj := nm1 hy.h nn kk
  let V := hy.Vs[kk]!
  let acc1 : MatD α n n :=
    if (nk : Int) * jj ≥ 0 then
      let A := pyGet ado jj
      let rr := matMul V A
      let rl := matMul A V
      let th := matScale (c * (nk : α) * hy.lam[kk]! * hy.gamma[kk]!) (matAdd rr rl)
      let ps := matScale ((hy.ii * c) * hy.two * (nk : α) * hy.lam[kk]! * hy.kBT) (matSub rr rl)
      MatD.tab (matAdd (matAdd acc.fn th) ps)
    else acc
  let jp := np1 hy.h nn kk
  if jp > 0 then
    let A := pyGet ado jp
    MatD.tab (matAdd acc1.fn (matScale (hy.ii * c) (matSub (matMul V A) (matMul A V))))
  else acc1

theorem crosRhs_get (hy : Hier α n) (ado : Ado α n) (c : α) (i : Nat) (h : i < ado.size) :
    (crosRhs hy ado c 0)[i]! = (List.range hy.nbath).foldl (crosBody hy ado c i) (MatD.tab (fun _ _ => 0)) := by
  unfold crosRhs
  rw [getElemB_ofFn _ i h]
  rfl

theorem heomGen_get (hy : Hier α n) (ado : Ado α n) (c : α) (i : Nat) (h : i < ado.size) :
    (heomGen hy 0 c ado)[i]! = MatD.tab (matAdd
      ((List.range hy.nbath).foldl (crosBody hy ado c i) (MatD.tab (fun _ _ => 0))).fn
      (matScale (-c) (matAdd (matScale hy.ii
        (matSub (matMul hy.HH (ado[i]!).fn) (matMul (ado[i]!).fn hy.HH)))
        (matScale (bigGamma hy.gamma.toList (hy.h[i]?.getD [])) (ado[i]!).fn)))) := by
  unfold heomGen
  rw [adoAdd_get _ _ i ((size_crosRhs hy ado c 0).symm ▸ h), crosRhs_get hy ado c i h, selfRhs_get hy ado c i h,
    MatD.fn_tab]

theorem trace_mul_comm (A B : Fin n → Fin n → α) : trace (matMul A B) = trace (matMul B A) := by
  rw [trace_eq_matrix_trace, trace_eq_matrix_trace, of_matMul, of_matMul, Matrix.trace_mul_comm]

theorem trace_matAdd (A B : Fin n → Fin n → α) : trace (matAdd A B) = trace A + trace B := by
  simp only [trace_eq]; exact Finset.sum_add_distrib
theorem trace_matSub (A B : Fin n → Fin n → α) : trace (matSub A B) = trace A - trace B := by
  simp only [trace_eq]; exact Finset.sum_sub_distrib _ _
theorem trace_matScale (c : α) (A : Fin n → Fin n → α) : trace (matScale c A) = c * trace A := by
  simp only [trace_eq]; exact (Finset.mul_sum _ _ _).symm
theorem trace_zero : trace (fun (_ _ : Fin n) => (0 : α)) = 0 := by
  rw [trace_eq]; exact Finset.sum_const_zero

theorem trace_comm_zero (V A : Fin n → Fin n → α) : trace (matSub (matMul V A) (matMul A V)) = 0 := by
  rw [trace_matSub, trace_mul_comm, sub_self]

theorem bigGamma_zero (g : List α) (v : List Nat) (hv : ∀ x ∈ v, x = 0) : bigGamma g v = 0 := by
  refine List.sum_eq_zero fun x hx => ?_
  obtain ⟨p, hp, rfl⟩ := List.mem_map.mp hx
  rw [hv p.1 (List.of_mem_zip hp).1, Nat.cast_zero, zero_mul]

theorem getD_zero (v : List Nat) (hv : ∀ x ∈ v, x = 0) (k : Nat) : v[k]?.getD 0 = 0 := by
  cases h : v[k]? with
  | none => rfl
  | some x => exact hv x (List.mem_of_getElem? h)

/-- every pass of the loop for the top element adds a traceless term: the lowering terms carry the factor `n_k = 0`, the
raising term is a commutator -/
theorem crosBody_trace0 (hy : Hier α n) (hz : ∀ x ∈ hy.h[0]?.getD [], x = 0) (c : α) (ado : Ado α n)
    (acc : MatD α n n) (kk : Nat) (hacc : trace acc.fn = 0) : trace (crosBody hy ado c 0 acc kk).fn = 0 := by
  unfold crosBody
  simp only [apply_ite MatD.fn, apply_ite trace, MatD.fn_tab, trace_matAdd, trace_matScale, trace_comm_zero, hacc,
    getD_zero _ hz kk, Nat.cast_zero, zero_mul, mul_zero, add_zero, ite_self]

/-- **the top element of the hierarchy has a traceless right-hand side**, whatever the auxiliary operators are -/
theorem heomGen_trace0 (hy : Hier α n) (hz : ∀ x ∈ hy.h[0]?.getD [], x = 0) (c : α) (ado : Ado α n) (h0 : 0 < ado.size) :
    trace ((heomGen hy 0 c ado)[0]!).fn = 0 := by
  -- the coupling loop keeps its accumulator traceless
  have hfold := foldl_inv (fun acc : MatD α n n => trace acc.fn = 0) (crosBody hy ado c 0) (List.range hy.nbath) _
    (by rw [MatD.fn_tab, trace_zero]) fun b x _ hb => crosBody_trace0 hy hz c ado b x hb
  -- the Hamiltonian term is a commutator, the damping term carries `Γ = 0`
  simp only [heomGen_get hy ado c 0 h0, MatD.fn_tab, trace_matAdd, trace_matScale, trace_comm_zero, bigGamma_zero _ _ hz,
    hfold, zero_mul, mul_zero, add_zero]

theorem hinds_zero (N depth : Nat) : (hinds N depth)[0]? = some (List.replicate N 0) := by
  unfold hinds genLevels
  rw [List.range_succ_eq_map]
  simp [level]

end

section
variable {α : Type} [Field α] [Inhabited α] {n : Nat}

/-- the state `propagate` starts from -/
def ado0 (hy : Hier α n) (rho0 : Fin n → Fin n → α) : Ado α n :=
  Array.ofFn (n := hy.h.length) fun i => if i.val = 0 then MatD.tab rho0 else MatD.tab (fun _ _ => 0)

omit [Inhabited α] in
theorem size_ado0 (hy : Hier α n) (rho0 : Fin n → Fin n → α) : (ado0 hy rho0).size = hy.h.length := Array.size_ofFn

theorem ado0_get (hy : Hier α n) (rho0 : Fin n → Fin n → α) (i : Nat) (h : i < hy.h.length) :
    (ado0 hy rho0)[i]! = if i = 0 then MatD.tab rho0 else MatD.tab (fun _ _ => 0) :=
  getElemB_ofFn _ i h

/-- **unit trace is kept**: at every stored time the reduced density matrix returned by the propagation has the trace
of the initial state -/
theorem heom_trace_conserved (hy : Hier α n) (hz : ∀ x ∈ hy.h[0]?.getD [], x = 0) (hpos : 0 < hy.h.length)
    (dt : α) (L nt : Nat) (rho0 : Fin n → Fin n → α) :
    ∀ ρ ∈ heomPropagate hy dt L nt rho0, trace ρ.fn = trace rho0 := by
  intro ρ hρ
  obtain ⟨a, ha, rfl⟩ := List.mem_map.mp hρ
  -- against the stepping of the zero generator on the scalars, which stands still
  have hrel := taylorTrajectory_rel (heomGen hy 0) adoAdd (fun (_ : α) (_ : α) => (0 : α)) (· + ·) dt
    (fun x t => x.size = hy.h.length ∧ trace (x[0]!).fn = t)
    (fun l x y hxy => ⟨(size_heomGen hy x _ 0).trans hxy.1, heomGen_trace0 hy hz _ x (hxy.1 ▸ hpos)⟩)
    (fun a a' b b' hab hab' => ⟨(size_adoAdd a a').trans hab.1, by
      rw [adoAdd_get a a' 0 (hab.1 ▸ hpos), MatD.fn_tab, trace_matAdd, hab.2, hab'.2]⟩)
    L 1 nt (ado0 hy rho0) (trace rho0) ⟨size_ado0 hy rho0, by rw [ado0_get hy rho0 0 hpos, if_pos rfl, MatD.fn_tab]⟩
  obtain ⟨t, ht, hr⟩ := forall₂_left hrel a ha
  rw [hr.2, taylorTrajectory_zero dt L 1 nt (trace rho0) t ht]

theorem matMul_zero_right (A : Fin n → Fin n → α) : matMul A (fun (_ _ : Fin n) => (0 : α)) = fun _ _ => 0 :=
  Matrix.of.injective ((of_matMul A _).trans (Matrix.mul_zero _))
theorem matMul_zero_left (A : Fin n → Fin n → α) : matMul (fun (_ _ : Fin n) => (0 : α)) A = fun _ _ => 0 :=
  Matrix.of.injective ((of_matMul _ A).trans (Matrix.zero_mul _))

theorem np1_lt (h : List (List Nat)) (nn kk : Nat) : np1 h nn kk < (h.length : Int) := (np1_bounds h nn kk).2

/-- the auxiliary operators (elements `1 … N−1`) vanish -/
def AuxZero (N : Nat) (ado : Ado α n) : Prop := ∀ i, 0 < i → i < N → (ado[i]!).fn = fun _ _ => 0

/-- the lowering terms carry the factor `λ_k = 0`, the raising term reads an auxiliary operator -/
theorem crosBody_zero (hy : Hier α n) (hl : ∀ kk, kk < hy.nbath → hy.lam[kk]! = 0) (c : α) (ado : Ado α n)
    (hA : AuxZero hy.h.length ado) (nn : Nat) (acc : MatD α n n) (kk : Nat)
    (hk : kk < hy.nbath) (hacc : acc.fn = fun _ _ => 0) : (crosBody hy ado c nn acc kk).fn = fun _ _ => 0 := by
  have hup : np1 hy.h nn kk > 0 → pyGet ado (np1 hy.h nn kk) = fun _ _ => 0 := fun hp => by
    unfold pyGet
    rw [if_neg (by omega)]
    exact hA _ (by omega) (by have := np1_lt hy.h nn kk; omega)
  unfold crosBody
  funext a b
  -- `+contextual`: `hup` can fire only under the guard `jp > 0` of the `if` it sits in
  simp +contextual only [apply_ite MatD.fn, MatD.fn_tab, ite_apply, hl kk hk, hup, hacc, matMul_zero_right,
    matMul_zero_left, matAdd, matScale, matSub, mul_zero, zero_mul, add_zero, sub_zero, ite_self]

theorem cros_zero (hy : Hier α n) (hl : ∀ kk, kk < hy.nbath → hy.lam[kk]! = 0) (c : α) (ado : Ado α n)
    (hA : AuxZero hy.h.length ado) (nn : Nat) :
    ((List.range hy.nbath).foldl (crosBody hy ado c nn) (MatD.tab (fun _ _ => 0))).fn = fun _ _ => 0 :=
  foldl_inv (fun acc : MatD α n n => acc.fn = fun _ _ => 0) _ _ _ (MatD.fn_tab _)
    fun b x hx hb => crosBody_zero hy hl c ado hA nn b x (List.mem_range.mp hx) hb

/-- `AuxZero` is kept and the top element steps by `genH`; `hz` only makes `Γ₀ = 0` -/
theorem heomGen_closed (hy : Hier α n) (hz : ∀ x ∈ hy.h[0]?.getD [], x = 0) (hpos : 0 < hy.h.length)
    (hl : ∀ kk, kk < hy.nbath → hy.lam[kk]! = 0) (c : α) (ado : Ado α n) (hs : ado.size = hy.h.length)
    (hA : AuxZero hy.h.length ado) :
    AuxZero hy.h.length (heomGen hy 0 c ado) ∧
    (heomGen hy 0 c ado)[0]! = genH hy.ii hy.HH c (ado[0]!) := by
  constructor
  · intro i hi0 hiN
    rw [heomGen_get hy ado c i (hs ▸ hiN), MatD.fn_tab, cros_zero hy hl c ado hA i, hA i hi0 hiN,
      matMul_zero_right, matMul_zero_left]
    funext a b
    simp [matAdd, matScale, matSub]
  · rw [heomGen_get hy ado c 0 (hs ▸ hpos), cros_zero hy hl c ado hA 0, bigGamma_zero _ _ hz]
    refine congrArg MatD.tab (funext fun a => funext fun b => ?_)
    simp only [QV.Prop.comm, matAdd, matScale, matSub]
    ring

/-- **zero system-bath coupling strength gives the closed-system dynamics**: with all reorganisation energies zero the
propagation of the hierarchy returns, at every stored time, exactly what the closed-system stepping with the same
Hamiltonian, step and expansion order returns -/
theorem heom_zero_coupling_is_closed (hy : Hier α n) (hz : ∀ x ∈ hy.h[0]?.getD [], x = 0) (hpos : 0 < hy.h.length)
    (hl : ∀ kk, kk < hy.nbath → hy.lam[kk]! = 0) (dt : α) (L nt : Nat) (rho0 : Fin n → Fin n → α) :
    heomPropagate hy dt L nt rho0 = taylorTrajectory (genH hy.ii hy.HH) madd dt L 1 nt (MatD.tab rho0) := by
  have hrel := taylorTrajectory_rel (heomGen hy 0) adoAdd (genH hy.ii hy.HH) madd dt
    (fun x ρ => x.size = hy.h.length ∧ AuxZero hy.h.length x ∧ x[0]! = ρ)
    (fun l x y hxy => by
      obtain ⟨h1, h2⟩ := heomGen_closed hy hz hpos hl (dt / (l : α)) x hxy.1 hxy.2.1
      exact ⟨(size_heomGen hy x _ 0).trans hxy.1, h1, h2.trans (congrArg _ hxy.2.2)⟩)
    (fun a a' b b' hab hab' => by
      refine ⟨(size_adoAdd a a').trans hab.1, fun i hi0 hiN => ?_, ?_⟩
      · rw [adoAdd_get a a' i (hab.1 ▸ hiN), MatD.fn_tab, hab.2.1 i hi0 hiN, hab'.2.1 i hi0 hiN]
        funext p q
        simp [matAdd]
      · rw [adoAdd_get a a' 0 (hab.1 ▸ hpos), hab.2.2, hab'.2.2]
        rfl)
    L 1 nt (ado0 hy rho0) (MatD.tab rho0)
    ⟨size_ado0 hy rho0, fun i hi0 hiN => by rw [ado0_get hy rho0 i hiN, if_neg (by omega), MatD.fn_tab],
      by rw [ado0_get hy rho0 0 hpos, if_pos rfl]⟩
  -- `h.2.2`: `a ↦ a[0]!` maps the left trajectory onto the right one
  exact List.forall₂_eq_eq_eq ▸ List.forall₂_map_left_iff.mpr (hrel.imp fun _ _ h => h.2.2)

theorem hinds_pos (N depth : Nat) : 0 < (hinds N depth).length :=
  (List.getElem?_eq_some_iff.mp (hinds_zero N depth)).1

/-- the hypotheses hold for the hierarchy the package generates -/
theorem hinds_first_zero (N depth : Nat) : ∀ x ∈ (hinds N depth)[0]?.getD [], x = 0 := by
  rw [hinds_zero]; simp
end

end QV.C16
