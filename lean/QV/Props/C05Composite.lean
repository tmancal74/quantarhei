import QV.Props.C05
import Mathlib.Algebra.BigOperators.Field
import Mathlib.Tactic.NormNum
import Mathlib.Tactic.Ring

/-!
# C05 — accessors that combine several stored energies
State energies (`ElectronicState.energy`, `VibronicState.energy`: site energies plus vibrational quanta) and transition
energies (`Aggregate.get_transition`: a difference of two state energies) combine stored internal values.  Converting
the contributions one by one and combining them is the exact conversion `toCurrent (Σ e_k)` for every ordinary unit and
is NOT for a reciprocal unit - the defect repaired in `ElectronicState.energy` and the change seeded into
`get_transition`.
-/
namespace QV.C05
open QV.Gen.C05

section
variable {K : Type} [Field K] (fac : String → K)

theorem toCurrent_add_ordinary (u : String) (a b : K) (hu : u ∉ reciprocalUnits) :
    toCurrent fac u (a + b) = toCurrent fac u a + toCurrent fac u b := by
  simp only [toCurrent, hu, if_false]; ring

theorem toCurrent_sub_ordinary (u : String) (a b : K) (hu : u ∉ reciprocalUnits) :
    toCurrent fac u (a - b) = toCurrent fac u a - toCurrent fac u b := by
  simp only [toCurrent, hu, if_false]; ring

/-- a state energy (multiplicities `n k` for vibrational quanta): for an ordinary unit the contribution-by-contribution
sum the code used to form IS the exact conversion -/
theorem toCurrent_sum_ordinary {ι : Type} (s : Finset ι) (n : ι → K) (e : ι → K) (u : String)
    (hu : u ∉ reciprocalUnits) :
    toCurrent fac u (∑ k ∈ s, n k * e k) = ∑ k ∈ s, n k * toCurrent fac u (e k) := by
  simp only [toCurrent, hu, if_false, Finset.sum_div, mul_div_assoc]

theorem state_energy_exact {ι : Type} (s : Finset ι) (x : ι → K) (u u' : String)
    (hu : u ∉ reciprocalUnits) (hu' : u' ∉ reciprocalUnits) :
    toCurrent fac u' (∑ k ∈ s, toInternal fac u (x k)) = (∑ k ∈ s, x k) * fac u / fac u' := by
  simp only [toCurrent, toInternal, hu, hu', if_false, Finset.sum_mul]
end

/-- a reciprocal unit is not linear: two equal energies, wavelength of the sum ≠ sum of the wavelengths -/
theorem sum_of_wavelengths_witness :
    "nm" ∈ reciprocalUnits ∧
    toCurrent (K := ℚ) (fun _ => 1) "nm" (1 + 1) ≠ toCurrent (fun _ => 1) "nm" 1 + toCurrent (fun _ => 1) "nm" 1 := by
  have h : "nm" ∈ reciprocalUnits := by decide
  refine ⟨h, ?_⟩
  simp only [toCurrent, h, if_true]
  norm_num

/-- nor is the wavelength of a transition the difference of the wavelengths of its two levels -/
theorem difference_of_wavelengths_witness :
    toCurrent (K := ℚ) (fun _ => 1) "nm" (3 - 1) ≠ toCurrent (fun _ => 1) "nm" 3 - toCurrent (fun _ => 1) "nm" 1 := by
  have h : "nm" ∈ reciprocalUnits := by decide
  simp only [toCurrent, h, if_true]
  norm_num

end QV.C05
