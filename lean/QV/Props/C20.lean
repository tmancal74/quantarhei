import QV.Model.C20
import Mathlib.Tactic.SplitIfs
import Mathlib.Algebra.BigOperators.Intervals
import Mathlib.Order.Interval.Finset.Basic
import Mathlib.Algebra.Order.Group.Int
import Mathlib.Data.Int.Interval

/-!
# C20 — distributed work ranges partition the index range exactly
About `QV.Gen.C20.rangeLo/rangeHi`, which the extractor regenerates from
`quantarhei/core/parallel.py::_calculate_ranges` on every run, for every number of processes `size ≥ 1` and all integers
`start`, `stop`; `blocks_forward`, `bd_mono`, `blocks_inside`, `reduce_eq_serial` need `start ≤ stop`.  `chain_cover` and
`chain_sum` hold of any monotone chain of boundaries.
-/
namespace QV.C20
open QV.Gen.C20

/-- Python's `//` and `%` for a positive divisor. -/
theorem pydivmod (w s : Int) (hs : 0 < s) :
    w = s * Int.fdiv w s + Int.fmod w s ∧ 0 ≤ Int.fmod w s ∧ Int.fmod w s < s :=
  ⟨(Int.mul_fdiv_add_fmod w s).symm, Int.fmod_nonneg_of_pos w hs, Int.fmod_lt_of_pos w hs⟩

/-- the upper end in closed form (`p`, `m` quotient and remainder of the length): rank `r` and the ranks before it
have taken `r + 1` blocks of `p` and the first `min r m` of the `m` extra elements (rank 0 never takes one) -/
theorem rangeHi_eq (size r start stop : Int) :
    rangeHi size r start stop =
      start + (r + 1) * Int.fdiv (stop - start) size + min r (Int.fmod (stop - start) size) := by
  unfold rangeHi
  rw [add_mul, one_mul]  -- `(r + 1) * p` would be an atom of its own to `omega`
  omega

theorem rangeLo_eq (size r start stop : Int) (hr : r ≠ 0) :
    rangeLo size r start stop =
      start + r * Int.fdiv (stop - start) size + min (r - 1) (Int.fmod (stop - start) size) := by
  unfold rangeLo
  split_ifs <;> omega

theorem blocks_contiguous (size r start stop : Int) (hs : 0 < size) (hr : 0 ≤ r) :
    rangeHi size r start stop = rangeLo size (r + 1) start stop := by
  -- the two closed forms agree whatever `size` is
  rw [rangeHi_eq, rangeLo_eq _ _ _ _ (by omega), add_sub_cancel_right]

theorem first_block_starts (size start stop : Int) (hs : 0 < size) :
    rangeLo size 0 start stop = start := by
  obtain ⟨_, h1, _⟩ := pydivmod (stop - start) size hs
  unfold rangeLo
  omega

/-- also for `stop < start` -/
theorem last_block_ends (size start stop : Int) (hs : 0 < size) :
    rangeHi size (size - 1) start stop = stop := by
  obtain ⟨h0, h1, h2⟩ := pydivmod (stop - start) size hs
  rw [rangeHi_eq, sub_add_cancel]
  -- the remainder `m` is below `size` (`h2`), so `min (size - 1) m = m`, and `size * p + m = stop - start` (`h0`)
  omega

/-- each block has `per_worker` or `per_worker + 1` elements; the longer ones are ranks `1..remainder` -/
theorem block_size (size r start stop : Int) :
    rangeHi size r start stop - rangeLo size r start stop =
      Int.fdiv (stop - start) size +
        (if r ≠ 0 ∧ r ≤ Int.fmod (stop - start) size then 1 else 0) := by
  unfold rangeHi rangeLo
  split_ifs <;> omega

theorem sizes_differ_by_one (size r r' start stop : Int) :
    (rangeHi size r start stop - rangeLo size r start stop) -
      (rangeHi size r' start stop - rangeLo size r' start stop) ≤ 1 := by
  rw [block_size, block_size]
  omega

theorem blocks_forward (size r start stop : Int) (hs : 0 < size) (h : start ≤ stop) :
    rangeLo size r start stop ≤ rangeHi size r start stop := by
  have hb := block_size size r start stop
  have hp := Int.fdiv_nonneg (sub_nonneg.mpr h) hs.le
  omega

/-- a backward range (`stop < start`) gives every rank an empty Python `range` -/
theorem all_empty (size r start stop : Int) (hs : 0 < size) (h : stop < start) :
    rangeHi size r start stop ≤ rangeLo size r start stop := by
  have hb := block_size size r start stop
  have hp := Int.fdiv_neg_of_neg_of_pos (sub_neg.mpr h) hs
  omega

/-- block boundaries as a chain indexed by natural numbers -/
def bd (size start stop : Int) (k : Nat) : Int := rangeLo size k start stop

theorem bd_succ (size start stop : Int) (hs : 0 < size) (k : Nat) :
    bd size start stop (k + 1) = rangeHi size k start stop :=
  (blocks_contiguous size k start stop hs (Int.natCast_nonneg k)).symm

theorem bd_zero (size start stop : Int) (hs : 0 < size) : bd size start stop 0 = start :=
  first_block_starts size start stop hs

theorem bd_last (n : Nat) (start stop : Int) (hn : 0 < n) : bd n start stop n = stop := by
  have hs := Int.natCast_pos.mpr hn
  obtain ⟨h0, _, h2⟩ := pydivmod (stop - start) n hs
  rw [bd, rangeLo_eq _ _ _ _ hs.ne']
  -- as in `last_block_ends`: `min (n - 1) m = m` since `m < n` (`h2`), and `n * p + m = stop - start` (`h0`)
  omega

theorem bd_mono (size start stop : Int) (hs : 0 < size) (h : start ≤ stop) (k : Nat) :
    bd size start stop k ≤ bd size start stop (k + 1) := by
  rw [bd_succ _ _ _ hs]; exact blocks_forward size k start stop hs h

theorem chain_cover (f : Nat → Int) (n : Nat) (hm : ∀ k, f k ≤ f (k + 1)) (i : Int)
    (h0 : f 0 ≤ i) (h1 : i < f n) : ∃! k, k < n ∧ f k ≤ i ∧ i < f (k + 1) := by
  have mono := monotone_nat_of_le_succ hm
  obtain ⟨k, hk, hlo, hhi⟩ : ∃ k, k < n ∧ f k ≤ i ∧ i < f (k + 1) := by
    induction n with
    | zero => omega
    | succ n ih =>
      by_cases hc : i < f n
      · obtain ⟨k, hk, hk'⟩ := ih hc
        exact ⟨k, by omega, hk'⟩
      · exact ⟨n, by omega, by omega, h1⟩
  refine ⟨k, ⟨hk, hlo, hhi⟩, ?_⟩
  rintro k' ⟨_, hlo', hhi'⟩
  -- `f k' ≤ i < f (k + 1)` gives `k' < k + 1`, and likewise with the roles exchanged
  have h := mono.reflect_lt (hlo'.trans_lt hhi)
  have h' := mono.reflect_lt (hlo.trans_lt hhi')
  omega

/-- **disjoint exact cover**: every index of the requested range belongs to the
block of exactly one rank, for every process count and every integer range -/
theorem disjoint_cover (n : Nat) (start stop : Int) (hn : 0 < n) (i : Int)
    (h0 : start ≤ i) (h1 : i < stop) :
    ∃! r : Nat, r < n ∧ rangeLo n r start stop ≤ i ∧ i < rangeHi n r start stop := by
  have hs := Int.natCast_pos.mpr hn
  have h := chain_cover (bd n start stop) n (bd_mono n start stop hs (by omega)) i
    ((bd_zero _ _ _ hs).trans_le h0) (h1.trans_eq (bd_last n start stop hn).symm)
  simp only [bd_succ _ _ _ hs] at h
  exact h

/-- nothing outside the requested range is handed out -/
theorem blocks_inside (n : Nat) (start stop : Int) (hn : 0 < n) (hss : start ≤ stop) (r : Nat) (hr : r < n)
    (i : Int) (hlo : rangeLo n r start stop ≤ i) (hhi : i < rangeHi n r start stop) :
    start ≤ i ∧ i < stop := by
  have hs := Int.natCast_pos.mpr hn
  have mono := monotone_nat_of_le_succ (bd_mono n start stop hs hss)
  have h1 := mono r.zero_le
  have h2 := mono (Nat.succ_le_of_lt hr)
  rw [bd_zero _ _ _ hs] at h1
  rw [bd_last n start stop hn, bd_succ _ _ _ hs] at h2
  exact ⟨h1.trans hlo, hhi.trans_le h2⟩

theorem chain_sum {M : Type*} [AddCommMonoid M] (f : Nat → Int) (g : Int → M) (n : Nat)
    (hm : ∀ k, f k ≤ f (k + 1)) :
    ∑ k ∈ Finset.range n, ∑ i ∈ Finset.Ico (f k) (f (k + 1)), g i = ∑ i ∈ Finset.Ico (f 0) (f n), g i := by
  induction n with
  | zero => simp
  | succ n ih =>
    rw [Finset.sum_range_succ, ih, ← Finset.sum_union (Finset.Ico_disjoint_Ico_consecutive _ _ _),
      Finset.Ico_union_Ico_eq_Ico (monotone_nat_of_le_succ hm n.zero_le) (hm n)]

/-- **sum-reduced results equal the serial result** -/
theorem reduce_eq_serial {M : Type*} [AddCommMonoid M] (n : Nat) (start stop : Int) (hn : 0 < n)
    (h : start ≤ stop) (g : Int → M) :
    ∑ r ∈ Finset.range n, ∑ i ∈ Finset.Ico (rangeLo n r start stop) (rangeHi n r start stop), g i
      = ∑ i ∈ Finset.Ico start stop, g i := by
  have hs := Int.natCast_pos.mpr hn
  have := chain_sum (bd n start stop) g n (bd_mono n start stop hs h)
  simp only [bd_zero _ _ _ hs, bd_last n start stop hn, bd_succ _ _ _ hs] at this
  exact this

theorem mem_pyRange (a b i : Int) : i ∈ pyRange a b ↔ a ≤ i ∧ i < b := by
  unfold pyRange
  simp only [List.mem_map, List.mem_range]
  constructor
  · rintro ⟨k, hk, rfl⟩; omega
  · rintro ⟨h1, h2⟩; exact ⟨(i - a).toNat, by omega, by omega⟩

theorem mem_blockRange (size r start stop i : Int) :
    i ∈ blockRange size r start stop ↔ rangeLo size r start stop ≤ i ∧ i < rangeHi size r start stop :=
  mem_pyRange _ _ _

/-- non-vacuity: 3 processes, range(5, 15) -/
example : (rangeLo 3 0 5 15, rangeHi 3 0 5 15, rangeLo 3 1 5 15, rangeHi 3 1 5 15,
    rangeLo 3 2 5 15, rangeHi 3 2 5 15) = (5, 8, 8, 12, 12, 15) := by decide

/-- non-vacuity: a range shorter than the process count -/
example : blockRange 4 0 0 2 = [] ∧ blockRange 4 1 0 2 = [0] ∧ blockRange 4 2 0 2 = [1] ∧ blockRange 4 3 0 2 = [] := by
  decide

end QV.C20
