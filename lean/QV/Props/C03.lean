import QV.Model.C03
import Mathlib.Algebra.BigOperators.Group.List.Basic
import Mathlib.Tactic.Ring

/-!
# C03 — aggregate Hamiltonian and dipole operator are the Frenkel-exciton ones
The generated electronic states of `N` two-level molecules are 0/1 signatures grouped by number of excitations, by
the invariant `bandItems_inv` of the generator; the element rules are read off `coupling` and `transDipole` case by
case.  Signatures are read as the model reads them, through `σ[i]?.getD 0` (0 beyond the length).
-/
namespace QV.C03

theorem inc_eq_modify (l : List Nat) (n : Nat) : inc l n = l.modify n (· + 1) := by
  fun_induction inc l n <;> simp [*]

theorem inc_length (l : List Nat) (n : Nat) : (inc l n).length = l.length := by
  rw [inc_eq_modify, List.length_modify]

theorem inc_sum (l : List Nat) (n : Nat) (h : n < l.length) : (inc l n).sum = l.sum + 1 := by
  fun_induction inc l n <;> grind

theorem getD_inc (l : List Nat) (n i : Nat) :
    (inc l n)[i]?.getD 0 = l[i]?.getD 0 + if i = n ∧ n < l.length then 1 else 0 := by
  rw [inc_eq_modify]
  grind

/-- what `_add_excitation` maintains for two-level molecules -/
def Sound (N k : Nat) (σ : List Nat) : Prop := σ.length = N ∧ σ.sum = k ∧ ∀ i : Nat, σ[i]?.getD 0 ≤ 1

theorem getD_replicate (N v i : Nat) : (List.replicate N v)[i]?.getD 0 = if i < N then v else 0 := by
  grind

theorem sound_replicate (N : Nat) : Sound N 0 (List.replicate N 0) :=
  ⟨by simp, by simp, fun i => by rw [getD_replicate]; split <;> simp⟩

theorem Sound.inc {N k : Nat} {σ : List Nat} (h : Sound N k σ) {i : Nat} (hi : i < N) (h0 : σ[i]?.getD 0 = 0) :
    Sound N (k + 1) (inc σ i) := by
  refine ⟨by rw [inc_length, h.1], by rw [inc_sum σ i (h.1 ▸ hi), h.2.1], fun j => ?_⟩
  rw [getD_inc]
  split
  next hj => rw [hj.1, h0]
  next => exact h.2.2 j

theorem mem_addExcitation_iff {omax : List Nat} {ins : List (List Nat × Nat)} {r : List Nat × Nat} :
    r ∈ addExcitation omax ins ↔
      ∃ p ∈ ins, ∃ i, i < p.1.length ∧ p.2 ≤ i ∧ p.1[i]?.getD 0 < omax[i]?.getD 0 ∧ r = (inc p.1 i, i) := by
  simp only [addExcitation, List.mem_flatMap, List.mem_map, List.mem_filter, List.mem_range, decide_eq_true_eq,
    and_assoc, @eq_comm _ _ r]

/-- the invariant of the generated items `(signature, site excited last)`: nothing is excited behind `p.2` (an item is
extended at or behind it only, which is why no signature arises twice); in a band `k > 0` site `p.2` is excited, in
band 0 it is 0 - so `p.2` is a function of the signature (`item_of_sig`) and is its last excited site
(`bandSigs_complete`) -/
def ItemInv (N k : Nat) (p : List Nat × Nat) : Prop :=
  Sound N k p.1 ∧ (∀ j, p.2 < j → p.1[j]?.getD 0 = 0) ∧ (0 < k → p.1[p.2]?.getD 0 = 1) ∧ (k = 0 → p.2 = 0)

theorem bandItems_inv (N : Nat) : ∀ k, ∀ p ∈ bandItems (List.replicate N 1) k, ItemInv N k p := by
  intro k
  fun_induction bandItems (List.replicate N 1) k with
  | case1 =>
    rw [List.forall_mem_singleton, List.length_replicate]
    exact ⟨sound_replicate N, fun j _ => by rw [getD_replicate, ite_self], nofun, fun _ => rfl⟩
  | case2 k ih =>
    intro r hr
    obtain ⟨p, hp, i, hi, hle, hlt, rfl⟩ := mem_addExcitation_iff.1 hr
    obtain ⟨hs, hz, _, _⟩ := ih p hp
    rw [getD_replicate] at hlt
    have h0 : p.1[i]?.getD 0 = 0 := by split at hlt <;> omega
    refine ⟨hs.inc (hs.1 ▸ hi) h0, fun j hj => ?_, fun _ => ?_, nofun⟩
    · rw [getD_inc, hz j (by omega), if_neg (by omega)]
    · rw [getD_inc, if_pos ⟨rfl, hi⟩, h0]

theorem bandItems_sound (N : Nat) : ∀ k, ∀ p ∈ bandItems (List.replicate N 1) k, Sound N k p.1 :=
  fun k p hp => (bandItems_inv N k p hp).1

theorem bandSigs_sound {N k : Nat} {σ : List Nat} (hσ : σ ∈ bandSigs (List.replicate N 1) k) : Sound N k σ := by
  obtain ⟨p, hp, rfl⟩ := List.mem_map.1 hσ
  exact bandItems_sound N k p hp

/-- **every generated electronic state is a 0/1 signature of the right length whose band is its number of excitations** -/
theorem elsigs_sound (N mult : Nat) : ∀ σ ∈ elsigs (List.replicate N 1) mult,
    σ.length = N ∧ band σ ≤ mult ∧ ∀ i : Nat, σ[i]?.getD 0 ≤ 1 := by
  intro σ hσ
  obtain ⟨k, hk, hσ⟩ := List.mem_flatMap.1 hσ
  obtain ⟨h1, h2, h3⟩ := bandSigs_sound hσ
  exact ⟨h1, h2.trans_le (Nat.le_of_lt_succ (List.mem_range.1 hk)), h3⟩

/-- **states are ordered by band** -/
theorem elsigs_band_ordered (N mult : Nat) :
    (elsigs (List.replicate N 1) mult).Pairwise (fun a b => band a ≤ band b) := by
  unfold elsigs
  rw [List.pairwise_flatMap]
  -- inside band `k`: `band a = k = band b`; across bands `k < k'`: `band x = k < k' = band y`
  exact ⟨fun k _ => List.pairwise_of_forall_mem_list fun a ha b hb =>
      (bandSigs_sound ha).2.1.trans_le (bandSigs_sound hb).2.1.ge,
    List.pairwise_lt_range.imp fun hab x hx y hy =>
      (bandSigs_sound hx).2.1.trans_le (hab.le.trans_eq (bandSigs_sound hy).2.1.symm)⟩

section
variable {α : Type} [CommRing α]

/-- **no Hamiltonian elements between different bands** -/
theorem coupling_interband_zero (nmono : Nat) (J : Nat → Nat → α) (σ1 σ2 : List Nat) (i j : Nat)
    (h : band σ1 ≠ band σ2) : coupling nmono J σ1 σ2 i j = 0 := by
  rw [coupling, if_neg h, ite_self]

/-- inside a band (other than the one-exciton band, which is indexed directly by site) an element is
non-zero only between states that differ by moving one excitation `k ↔ l`, and then equals `J k l` -/
theorem coupling_rule (nmono : Nat) (hm : 1 < nmono) (J : Nat → Nat → α) (σ1 σ2 : List Nat) (i j : Nat)
    (hb : band σ1 = band σ2) (h1 : band σ1 ≠ 1) :
    (∀ k l, diffSites σ1 σ2 = [k, l] → absDiffSum σ1 σ2 = 2 → coupling nmono J σ1 σ2 i j = J k l) ∧
    ((∀ k l, diffSites σ1 σ2 ≠ [k, l]) → coupling nmono J σ1 σ2 i j = 0) := by
  rw [coupling, if_pos hm, if_pos hb, if_neg h1]
  constructor
  · intro k l hd ha
    rw [hd]
    exact if_pos ha
  · intro hne
    split
    · exact absurd ‹_› (hne _ _)
    · rfl

/-- in the one-exciton band the element between the states of sites `k` and `l` is `J k l` -/
theorem coupling_one_exciton (nmono : Nat) (hm : 1 < nmono) (J : Nat → Nat → α) (σ1 σ2 : List Nat) (k l : Nat)
    (h1 : band σ1 = 1) (h2 : band σ2 = 1) : coupling nmono J σ1 σ2 (k + 1) (l + 1) = J k l := by
  rw [coupling, if_pos hm, if_pos (h1.trans h2.symm), if_pos h1, if_pos ⟨Nat.le_add_left .., Nat.le_add_left ..⟩]
  rfl

theorem exIndex_eq_some_iff {σ1 σ2 : List Nat} {k : Nat} : exIndex σ1 σ2 = some k ↔ diffSites σ1 σ2 = [k] ∧
    (((band σ1 : Int) - band σ2).natAbs = 1 ∨ ((band σ1 : Int) - band σ2).natAbs = 2) := by
  fun_cases exIndex σ1 σ2 <;> grind

/-- **dipole selection rule**: a non-zero element needs bands differing by one or two and exactly one
molecule changing state, and is the dipole of that molecule -/
theorem dipole_selection (d : Nat → α) (σ1 σ2 : List Nat) (h : transDipole d σ1 σ2 ≠ 0) :
    ∃ k, diffSites σ1 σ2 = [k] ∧ transDipole d σ1 σ2 = d k ∧
      (((band σ1 : Int) - band σ2).natAbs = 1 ∨ ((band σ1 : Int) - band σ2).natAbs = 2) := by
  unfold transDipole at h ⊢
  split at h
  next k hk => exact ⟨k, (exIndex_eq_some_iff.1 hk).1, rfl, (exIndex_eq_some_iff.1 hk).2⟩
  next => exact absurd rfl h

theorem diffSites_symm (a b : List Nat) (h : a.length = b.length) : diffSites a b = diffSites b a := by
  simp only [diffSites, h, ne_comm]

theorem absDiffSum_symm (a b : List Nat) (h : a.length = b.length) : absDiffSum a b = absDiffSum b a := by
  unfold absDiffSum
  rw [h]
  congr 1
  apply List.map_congr_left
  omega

/-- **the Hamiltonian is symmetric** for a symmetric coupling matrix: every test in `coupling` is symmetric -/
theorem coupling_symm (nmono : Nat) (J : Nat → Nat → α) (hJ : ∀ k l, J k l = J l k) (σ1 σ2 : List Nat) (i j : Nat)
    (hl : σ1.length = σ2.length) : coupling nmono J σ1 σ2 i j = coupling nmono J σ2 σ1 j i := by
  unfold coupling
  simp only [diffSites_symm σ2 σ1 hl.symm, absDiffSum_symm σ2 σ1 hl.symm, hJ (j - 1), and_comm (a := j ≥ 1)]
  by_cases hb : band σ1 = band σ2
  · rw [hb]
  · rw [if_neg hb, if_neg (Ne.symm hb)]
end

end QV.C03
