import QV.Model.C04

/-!
# C04 — the basis labels follow the stack, protected objects included
The bookkeeping alone, for programs that also use `protect_basis` / `unprotect_basis`: at every reachable state every
managed object - protected or not - carries the label of a basis on the stack, is registered with the context whose
label it carries and with none above it.  No assumption on the transformations (they need not be invertible).
`Props/C04.lean` adds the *values*, for invertible transformations and programs without protection.
-/
namespace QV.C04

variable {T R : Type} (A : Alg T R)

/-- programs with protection -/
inductive OpP (T R : Type) where
  | base (op : Op T R)
  | protect (id : Nat)
  | unprotect (id : Nat)

def stepP (s : BState T R) : OpP T R → BState T R
  | .base op => step A s op
  | .protect i => setProt s i true
  | .unprotect i => setProt s i false

def runP (s : BState T R) (ops : List (OpP T R)) : BState T R := ops.foldl (stepP A) s

/-- bookkeeping invariant of one object at stack depth `d` -/
structure LabelInv (d : Nat) (o : Obj R) : Prop where
  le : o.basis ≤ d
  reg : o.basis ≠ 0 → o.basis ∈ o.regs
  regs : ∀ l ∈ o.regs, 1 ≤ l ∧ l ≤ o.basis

def StateLabelInv (s : BState T R) : Prop := ∀ id o, getObj s id = some o → LabelInv s.levels.length o

variable {A}

theorem lookup_filter_neA {β : Type} (l : List (Nat × β)) (id id' : Nat) (h : id' ≠ id) :
    (l.filter (fun p => p.1 != id)).lookup id' = l.lookup id' := by
  induction l with
  | nil => rfl
  | cons p ps ih => grind

theorem lookup_map_snd {β : Type} (l : List (Nat × β)) (f : β → β) (id : Nat) :
    (l.map (fun p => (p.1, f p.2))).lookup id = (l.lookup id).map f := by
  induction l with
  | nil => rfl
  | cons p ps ih => grind

theorem getObj_setObjA (s : BState T R) (id id' : Nat) (o : Obj R) :
    getObj (setObj s id o) id' = if id' = id then some o else getObj s id' := by
  simp only [getObj, setObj, List.lookup_cons]
  split <;> simp_all [lookup_filter_neA]

theorem setObj_levels (s : BState T R) (id : Nat) (o : Obj R) : (setObj s id o).levels = s.levels := rfl

/-- `exit` applies `exitObj` to every object -/
theorem exit_preserves {P : List T → Nat → Obj R → Prop}
    (hP : ∀ S rest id o, P (S :: rest) id o → P rest id (exitObj A S (rest.length + 1) o))
    (s : BState T R) (h : ∀ id o, getObj s id = some o → P s.levels id o) :
    ∀ id o, getObj (exit A s) id = some o → P (exit A s).levels id o := by
  fun_cases exit A s
  · exact h
  · next S rest hl =>
    intro id o hg
    simp only [getObj, lookup_map_snd, Option.map_eq_some_iff] at hg
    obtain ⟨o0, ho, rfl⟩ := hg
    exact hP S rest id o0 (hl ▸ h id o0 ho)

/-- creation, the lazy transformation and `__exit__` all give an object a label `a` and register it there by a
conditional `cons`; the registrations it keeps must lie in `1..a` -/
theorem LabelInv.relabel {d a : Nat} {c : Prop} [Decidable c] {l : List Nat} {r : R} {p : Bool} (ha : a ≤ d)
    (hc : c → a = 0 ∨ a ∈ l) (hnc : ¬c → a ≠ 0) (hl : ∀ x ∈ l, 1 ≤ x ∧ x ≤ a) :
    LabelInv d ⟨r, a, p, if c then l else a :: l⟩ := by
  split
  · exact ⟨ha, (hc ‹c›).resolve_left, hl⟩
  · exact ⟨ha, fun _ => List.mem_cons_self,
      List.forall_mem_cons.2 ⟨⟨Nat.pos_of_ne_zero (hnc ‹_›), Nat.le_refl a⟩, hl⟩⟩

theorem toCurrent_label (s : BState T R) (o : Obj R) (h : LabelInv s.levels.length o) :
    LabelInv s.levels.length (toCurrent A s o) := by
  fun_cases toCurrent A s o
  · exact h
  · exact h
  · next hb _ =>
    exact .relabel (Nat.le_refl _) .inr (fun _ => Nat.ne_zero_of_lt (Nat.lt_of_le_of_ne h.le hb)) fun x hx =>
      (h.regs x hx).imp_right (Nat.le_trans · h.le)

theorem setObj_label (s : BState T R) (h : StateLabelInv s) (i : Nat) (o : Obj R) (ho : LabelInv s.levels.length o) :
    StateLabelInv (setObj s i o) := by
  intro id o' hg
  rw [getObj_setObjA] at hg
  split at hg
  · exact Option.some.inj hg ▸ ho
  · exact h id o' hg

theorem read_label (s : BState T R) (h : StateLabelInv s) (i : Nat) :
    StateLabelInv (read A s i).1 ∧ (read A s i).1.levels = s.levels := by
  fun_cases read A s i
  · exact ⟨h, rfl⟩
  · next o ho _ => exact ⟨setObj_label s h i _ (toCurrent_label s o (h i o ho)), rfl⟩

/-- an object registered with the context that is left carried its label (`regs ≤ basis ≤ n + 1`) and moves down one
level; any other object sits strictly below (it is registered with its own label) and stays -/
theorem exitObj_label (S : T) (n : Nat) (o : Obj R) (h : LabelInv (n + 1) o) : LabelInv n (exitObj A S (n + 1) o) := by
  have := h.le
  fun_cases exitObj A S (n + 1) o
  -- the new label `n + 1 - 1` is `n`; the lemma's condition `c` is the test of `__exit__` itself (`n = 0 ∨ n ∈ r`)
  · refine .relabel (ha := Nat.le_refl n) (hc := id) (hnc := fun h e => h (.inl e)) fun x hx => ?_
    rw [List.mem_filter, bne_iff_ne] at hx
    have := h.regs x hx.1
    omega
  · next hm =>
    have : o.basis ≠ n + 1 := fun e => hm (e ▸ h.reg (by omega))
    exact ⟨by omega, h.reg, h.regs⟩

theorem fresh_label (d : Nat) (r : R) :
    LabelInv d { rep := r, basis := d, prot := false, regs := if d = 0 then [] else [d] } :=
  .relabel (Nat.le_refl d) .inl id nofun

theorem setProt_label (s : BState T R) (h : StateLabelInv s) (i : Nat) (p : Bool) : StateLabelInv (setProt s i p) := by
  fun_cases setProt s i p
  · exact h
  -- `LabelInv` speaks of `basis` and `regs` only, so the fields of the proof for `o` serve for `o` with another `prot`
  -- (here) or another `rep` (in `stepP_label`): the empty `with`
  · next o ho => exact setObj_label s h i _ { h i o ho with }

theorem stepP_label (s : BState T R) (h : StateLabelInv s) (op : OpP T R) : StateLabelInv (stepP A s op) := by
  cases op with
  | protect i => exact setProt_label s h i true
  | unprotect i => exact setProt_label s h i false
  | base op =>
    cases op with
    | read i => exact (read_label s h i).1
    | enter i S =>
      intro id o hg
      have := (read_label (A := A) s h i).1 id o hg
      exact { this with le := Nat.le_succ_of_le this.le }  -- same object, the stack one deeper
    | exit => exact exit_preserves (P := fun l _ o => LabelInv l.length o) (fun S rest _ => exitObj_label S rest.length) s h
    | create i r => exact setObj_label s h i _ (fresh_label _ r)
    | write i r =>
      show StateLabelInv (write A s i r)
      fun_cases write A s i r
      · exact h
      · next o ho => exact setObj_label s h i _ { toCurrent_label (A := A) s o (h i o ho) with }

/-- **the labels follow the stack**: after any program with contexts (left normally or through an exception), creation,
reads, writes, protection and unprotection, every object carries the label of a basis on the stack -/
theorem labels_on_stack (ops : List (OpP T R)) (s : BState T R) (h : StateLabelInv s) : StateLabelInv (runP A s ops) :=
  List.foldlRecOn ops _ h fun s hs op _ => stepP_label s hs op

theorem LabelInv.zero {o : Obj R} (h : LabelInv 0 o) : o.basis = 0 ∧ o.regs = [] := by
  have hb : o.basis = 0 := Nat.le_zero.1 h.le
  refine ⟨hb, List.eq_nil_iff_forall_not_mem.2 fun l hl => ?_⟩
  have := h.regs l hl
  omega

/-- **bookkeeping restored**: whenever all contexts have been left, every object - protected or not - carries the
outermost label and is registered with no context -/
theorem labels_restored (ops : List (OpP T R)) (hd : (runP A (empty : BState T R) ops).levels = []) :
    ∀ id o, getObj (runP A (empty : BState T R) ops) id = some o → o.basis = 0 ∧ o.regs = [] :=
  fun id o hg => (hd ▸ labels_on_stack ops empty (fun _ _ hg => nomatch hg) id o hg).zero

/-- the statement is not vacuous: a program that protects an object inside a context and leaves the context -/
def demoProg : List (OpP Nat Nat) :=
  [.base (.create 0 5), .base (.enter 0 1), .base (.create 1 7), .protect 1, .base .exit]
def demoAlg : Alg Nat Nat := ⟨(· + ·), id, 0, fun _ r => r⟩

example : (runP demoAlg (empty : BState Nat Nat) demoProg).levels = [] ∧
    (getObj (runP demoAlg (empty : BState Nat Nat) demoProg) 1).map (fun o => (o.prot, o.basis, o.regs)) = some (true, 0, []) := by
  decide

end QV.C04
