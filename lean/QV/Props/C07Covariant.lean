import QV.Props.C07Basis
import QV.Lemmas.TaylorRel

/-!
# C07 — "in every basis", for the propagated dynamics
Propagating in another basis (Hamiltonian `S1 H SS`, tensor `transform`-ed, initial state `S1 ρ0 SS`) stores, at every
time, the transformed state of the propagation in the original basis, for orthogonal `S1 = SSᵀ`: `h1`, `h2`
(`S1ᵀ S1 = SS SSᵀ = 1`) serve the relaxation term (`transform_apply`), `h3` (`SS S1 = 1`) the commutator (`sandwich_mul`).
-/
namespace QV.Prop
open QV.C01

variable {α : Type} [CommRing α] {n : Nat}

/-- hides the `QV.matMul_eq_mul` of `Lemmas/Bridge` (entries as sums), hence the qualified name below -/
theorem matMul_eq_mul (A B : Mat α n) (i j : Fin n) :
    matMul A B i j = (Matrix.of A * Matrix.of B) i j :=
  congrFun₂ (of_matMul A B) i j

theorem sandwich_eq (S1 SS A : Mat α n) (i j : Fin n) :
    sandwich S1 SS A i j = (Matrix.of S1 * (Matrix.of A * Matrix.of SS)) i j :=
  congrFun₂ (of_sandwich S1 SS A) i j

theorem sandwich_mul (S1 SS A B : Mat α n) (h3 : ∀ x y, ∑ a, SS x a * S1 a y = if x = y then 1 else 0) :
    matMul (sandwich S1 SS A) (sandwich S1 SS B) = sandwich S1 SS (matMul A B) := by
  apply Matrix.of.injective
  -- the interior `SS S1` cancels by `h3`
  rw [of_matMul, of_sandwich, of_sandwich, of_sandwich, of_matMul, Matrix.mul_assoc, Matrix.mul_assoc (Matrix.of A),
    ← Matrix.mul_assoc (Matrix.of SS), mul_eq_one_of_sum h3, Matrix.one_mul, Matrix.mul_assoc]

/-- in the shape of `genTensor_fn` -/
theorem sandwich_lin (S1 SS A B : Mat α n) (k c : α) :
    sandwich S1 SS (fun a b => -(k * A a b) + c * B a b)
      = fun a b => -(k * sandwich S1 SS A a b) + c * sandwich S1 SS B a b := by
  funext a b
  simp only [sandwich, QV.matMul_eq_mul, Finset.mul_sum, add_mul, mul_add, neg_mul, mul_neg, Finset.sum_add_distrib,
    Finset.sum_neg_distrib, mul_assoc, mul_left_comm k, mul_left_comm c]

theorem sandwich_sub (S1 SS A B : Mat α n) :
    sandwich S1 SS (fun a b => A a b - B a b) = fun a b => sandwich S1 SS A a b - sandwich S1 SS B a b := by
  funext a b
  simp only [sandwich, matMul, sumFin_eq_sum, sub_mul, Finset.sum_sub_distrib, mul_sub]

theorem sandwich_add (S1 SS A B : Mat α n) :
    sandwich S1 SS (fun a b => A a b + B a b) = fun a b => sandwich S1 SS A a b + sandwich S1 SS B a b := by
  funext a b
  simp only [sandwich, matMul, sumFin_eq_sum, add_mul, Finset.sum_add_distrib, mul_add]

theorem genTensor_covariant (ii : α) (S1 SS H : Mat α n) (R : Tens α n) (c : α) (x y : MatD α n n)
    (h1 : ∀ x y, ∑ c, S1 c x * S1 c y = if x = y then 1 else 0)
    (h2 : ∀ x y, ∑ d, SS x d * SS y d = if x = y then 1 else 0)
    (h3 : ∀ x y, ∑ a, SS x a * S1 a y = if x = y then 1 else 0)
    (hxy : y.fn = sandwich S1 SS x.fn) :
    (genTensor ii (sandwich S1 SS H) (transformTwoPass S1 SS R) c y).fn
      = sandwich S1 SS (genTensor ii H R c x).fn := by
  have ha := transform_apply S1 SS R x.fn h1 h2
  simp only [apply] at ha
  have hc : comm (sandwich S1 SS H) (sandwich S1 SS x.fn) = sandwich S1 SS (comm H x.fn) := by
    unfold comm
    rw [sandwich_sub, sandwich_mul S1 SS H x.fn h3, sandwich_mul S1 SS x.fn H h3]
  simp only [genTensor_fn, hxy, ha, hc, sandwich_lin]

theorem taylorStep_covariant {β : Type} [Field β] (ii : β) (S1 SS H : Mat β n) (R : Tens β n) (dtd : β) (L : Nat)
    (h1 : ∀ x y, ∑ c, S1 c x * S1 c y = if x = y then 1 else 0)
    (h2 : ∀ x y, ∑ d, SS x d * SS y d = if x = y then 1 else 0)
    (h3 : ∀ x y, ∑ a, SS x a * S1 a y = if x = y then 1 else 0) (x y : MatD β n n)
    (hxy : y.fn = sandwich S1 SS x.fn) :
    (taylorStep (genTensor ii (sandwich S1 SS H) (transformTwoPass S1 SS R)) madd dtd L y).fn
      = sandwich S1 SS (taylorStep (genTensor ii H R) madd dtd L x).fn :=
  taylorStep_rel (genTensor ii H R) madd (genTensor ii (sandwich S1 SS H) (transformTwoPass S1 SS R)) madd dtd
    (fun x y => y.fn = sandwich S1 SS x.fn) (fun _ x y => genTensor_covariant ii S1 SS H R _ x y h1 h2 h3)
    (fun a a' b b' hab hab' => by rw [madd_fn, madd_fn, hab, hab', sandwich_add]) L x y hxy

/-- **propagation in the new basis stores the transformed states of the propagation in the old basis** -/
theorem propagate_covariant {β : Type} [Field β] (ii : β) (S1 SS H : Mat β n) (R : Tens β n) (dt : β)
    (L Nref nt : Nat) (ρ0 ρ0' : MatD β n n)
    (h1 : ∀ x y, ∑ c, S1 c x * S1 c y = if x = y then 1 else 0)
    (h2 : ∀ x y, ∑ d, SS x d * SS y d = if x = y then 1 else 0)
    (h3 : ∀ x y, ∑ a, SS x a * S1 a y = if x = y then 1 else 0)
    (h0 : ρ0'.fn = sandwich S1 SS ρ0.fn) :
    List.Forall₂ (fun x y => y.fn = sandwich S1 SS x.fn)
      (rdmPropagate (genTensor ii H R) dt L Nref nt ρ0)
      (rdmPropagate (genTensor ii (sandwich S1 SS H) (transformTwoPass S1 SS R)) dt L Nref nt ρ0') :=
  taylorTrajectory_lift _ madd _ madd _ _ L (taylorStep_covariant ii S1 SS H R _ L h1 h2 h3) Nref nt ρ0 ρ0' h0

/-- **the operator form held in the new basis** (`K, Kd, Λ, Λd` each transformed, as the basis manager does with the
components of a tensor in operator form) **acts on the transformed operator as the transformed result** -/
theorem applyOps_covariant (S1 SS K Kd L Ld ρ : Mat α n)
    (h3 : ∀ x y, ∑ a, SS x a * S1 a y = if x = y then 1 else 0) :
    applyOps (sandwich S1 SS K) (sandwich S1 SS Kd) (sandwich S1 SS L) (sandwich S1 SS Ld) (sandwich S1 SS ρ)
      = sandwich S1 SS (applyOps K Kd L Ld ρ) := by
  unfold applyOps
  simp only [sandwich_mul S1 SS _ _ h3]
  rw [sandwich_sub, sandwich_sub, sandwich_add]

/-- **hence the two forms agree in the new basis**: the operator form with transformed components and the transformed
explicit tensor act identically on every transformed operator -/
theorem ops_eq_tensor_in_new_basis (S1 SS K Kd L Ld ρ : Mat α n)
    (h1 : ∀ x y, ∑ c, S1 c x * S1 c y = if x = y then 1 else 0)
    (h2 : ∀ x y, ∑ d, SS x d * SS y d = if x = y then 1 else 0)
    (h3 : ∀ x y, ∑ a, SS x a * S1 a y = if x = y then 1 else 0) :
    applyOps (sandwich S1 SS K) (sandwich S1 SS Kd) (sandwich S1 SS L) (sandwich S1 SS Ld) (sandwich S1 SS ρ)
      = apply (transformTwoPass S1 SS (loopTerm K Kd L Ld)) (sandwich S1 SS ρ) := by
  rw [applyOps_covariant S1 SS K Kd L Ld ρ h3, applyOps_transform S1 SS K Kd L Ld ρ h1 h2]

/-- the transpose `Kd = Kᵀ`, which the code recomputes from the transformed `K` instead of storing it, is the
transformed transpose (orthogonal `S1 = SSᵀ`) -/
theorem sandwich_transpose (S1 SS K : Mat α n) (hT : ∀ x y, S1 x y = SS y x) :
    (fun i j => sandwich S1 SS K j i) = sandwich S1 SS (fun i j => K j i) := by
  funext i j
  simp only [sandwich, matMul, sumFin_eq_sum, hT, Finset.mul_sum]
  rw [Finset.sum_comm]
  exact Finset.sum_congr rfl fun y _ => Finset.sum_congr rfl fun x _ => by ring

/-- **the Redfield operator form as the code holds it in the new basis** (`K, Λ, Λd` transformed, `Kd` recomputed as
the transpose of the transformed `K`) **acts as the transformed tensor** -/
theorem redfield_ops_in_new_basis (S1 SS K L Ld ρ : Mat α n)
    (h1 : ∀ x y, ∑ c, S1 c x * S1 c y = if x = y then 1 else 0)
    (h2 : ∀ x y, ∑ d, SS x d * SS y d = if x = y then 1 else 0)
    (h3 : ∀ x y, ∑ a, SS x a * S1 a y = if x = y then 1 else 0)
    (hT : ∀ x y, S1 x y = SS y x) :
    applyOps (sandwich S1 SS K) (fun i j => sandwich S1 SS K j i) (sandwich S1 SS L) (sandwich S1 SS Ld)
        (sandwich S1 SS ρ)
      = apply (transformTwoPass S1 SS (loopTerm K (fun i j => K j i) L Ld)) (sandwich S1 SS ρ) := by
  rw [sandwich_transpose S1 SS K hT]
  exact ops_eq_tensor_in_new_basis S1 SS K (fun i j => K j i) L Ld ρ h1 h2 h3

/-- non-vacuity of the orthogonality hypotheses with a genuine rotation: `SS = [[3/5, 4/5], [-4/5, 3/5]]`, `S1 = SSᵀ` -/
def rotSS : Mat ℚ 2 := fun i j => if i = j then 3/5 else if i.val < j.val then 4/5 else -4/5
def rotS1 : Mat ℚ 2 := fun i j => rotSS j i

example : (∀ x y, ∑ c, rotS1 c x * rotS1 c y = if x = y then 1 else 0)
    ∧ (∀ x y, ∑ d, rotSS x d * rotSS y d = if x = y then 1 else 0)
    ∧ (∀ x y, ∑ a, rotSS x a * rotS1 a y = if x = y then 1 else 0)
    ∧ (∀ x y, rotS1 x y = rotSS y x) := by
  decide +kernel

end QV.Prop
