import QV.Model.C09
import QV.Props.C13
import Mathlib.Algebra.Order.Ring.Rat
import Mathlib.Data.Complex.Basic
import Mathlib.Data.ZMod.Defs

/-!
# C09 — the even and odd Fourier parts of a correlation function are even and odd in frequency
The upper-half transform (`ftUpper`) of real data is even, of imaginary data odd: the DFT of a reflected sequence is the
reflected DFT (`dft_refl`), and the Hermitian completion of the data (`completeUpper`) is symmetric resp. antisymmetric.
-/
namespace QV.C09

open QV.C13
variable {α : Type} [CommRing α]

/-- by definition `-m` in the ring `Fin n` -/
def refl {n : Nat} (m : Fin n) : Fin n := ⟨(n - m.val) % n, Nat.mod_lt _ (Nat.lt_of_le_of_lt (Nat.zero_le _) m.isLt)⟩

theorem refl_eq_self {n : Nat} {m : Fin n} (h0 : m.val = 0) : refl m = m := Fin.ext (by simp [refl, h0])

theorem refl_val {n : Nat} {m : Fin n} (h0 : m.val ≠ 0) : (refl m).val = n - m.val :=
  Nat.mod_eq_of_lt (by omega)

theorem refl_refl {n : Nat} (m : Fin n) : refl (refl m) = m :=
  neg_neg m

theorem refl_mul_modEq {n : Nat} (k m : Fin n) : (refl k).val * (refl m).val ≡ k.val * m.val [MOD n] := by
  rw [Nat.ModEq, ← Fin.val_mul, ← Fin.val_mul]
  exact congrArg Fin.val (neg_mul_neg k m)

/-- **reflection of the discrete Fourier sum**: the value at `−k` is the sum over the reflected sequence -/
theorem dft_refl {n : Nat} (ζ : α) (x : Fin n → α) (k : Fin n) :
    dft ζ x (refl k) = ∑ m, x (refl m) * npow ζ ((k.val * m.val) % n) := by
  unfold dft
  rw [sumFin_eq_sum]
  refine (Fintype.sum_bijective refl (Function.Involutive.bijective refl_refl) _ _ fun m => ?_).symm
  congr 2
  exact (refl_mul_modEq k m).symm

theorem dft_even {n : Nat} (ζ : α) (x : Fin n → α) (hx : ∀ m, x (refl m) = x m) (k : Fin n) :
    dft ζ x (refl k) = dft ζ x k := by
  rw [dft_refl]
  simp only [dft, sumFin_eq_sum, hx]

/-- index 0 is its own mirror image, hence the term `2·x[0]` -/
theorem dft_odd {n : Nat} (hn : 0 < n) (ζ : α) (x : Fin n → α)
    (hx : ∀ m : Fin n, m.val ≠ 0 → x (refl m) = - x m) (k : Fin n) :
    dft ζ x (refl k) + dft ζ x k = 2 * x ⟨0, hn⟩ := by
  rw [dft_refl]
  unfold dft
  rw [sumFin_eq_sum, ← Finset.sum_add_distrib, Fintype.sum_eq_single ⟨0, hn⟩]
  · simp [refl_eq_self, npow, two_mul]
  · intro m hm
    rw [hx m (Fin.val_ne_of_ne hm), neg_mul, neg_add_cancel]

theorem completeUpper_lt {N : Nat} (star : α → α) (y : Fin N → α) {m : Fin (2 * N)} (h : m.val < N) :
    completeUpper star y m = y ⟨m.val, h⟩ := dif_pos h

theorem completeUpper_mid {N : Nat} (star : α → α) (y : Fin N → α) {m : Fin (2 * N)} (h : m.val = N) :
    completeUpper star y m = 0 := by
  unfold completeUpper
  rw [dif_neg (by omega), dif_pos h]

theorem completeUpper_gt {N : Nat} (star : α → α) (y : Fin N → α) (k : Fin N) {m : Fin (2 * N)}
    (h : k.val + m.val = 2 * N) : completeUpper star y m = star (y k) := by
  unfold completeUpper
  rw [dif_neg (by omega), dif_neg (by omega)]
  exact congrArg (fun i => star (y i)) (Fin.ext (Nat.sub_eq_of_eq_add h.symm))

/-- reflection exchanges the lower region with the upper one, where the data are conjugated; `s = ±1` -/
theorem completeUpper_refl {N : Nat} (star : α → α) (y : Fin N → α) (s : α) (hs : s * s = 1)
    (hy : ∀ i, star (y i) = s * y i) (m : Fin (2 * N)) (h0 : m.val ≠ 0) :
    completeUpper star y (refl m) = s * completeUpper star y m := by
  have hr : (refl m).val + m.val = 2 * N := by have := m.isLt; rw [refl_val h0]; omega
  rcases lt_trichotomy m.val N with h | h | h
  · rw [completeUpper_lt star y h, completeUpper_gt star y ⟨_, h⟩ (by rwa [add_comm]), hy]
  · rw [completeUpper_mid star y h, completeUpper_mid star y (by omega), mul_zero]
  · have h' : (refl m).val < N := by omega
    rw [completeUpper_lt star y h', completeUpper_gt star y ⟨_, h'⟩ hr, hy, ← mul_assoc, hs, one_mul]

theorem completeUpper_sym {N : Nat} (star : α → α) (y : Fin N → α) (hy : ∀ i, star (y i) = y i)
    (m : Fin (2 * N)) : completeUpper star y (refl m) = completeUpper star y m := by
  by_cases h0 : m.val = 0
  · rw [refl_eq_self h0]
  · simpa using completeUpper_refl star y 1 (one_mul 1) (by simpa using hy) m h0

theorem completeUpper_antisym {N : Nat} (star : α → α) (y : Fin N → α) (hy : ∀ i, star (y i) = - y i)
    (m : Fin (2 * N)) (h0 : m.val ≠ 0) : completeUpper star y (refl m) = - completeUpper star y m := by
  simpa using completeUpper_refl star y (-1) (by simp) (by simpa using hy) m h0

theorem fftshift_upper {N : Nat} (G : Fin (2 * N) → α) (q : Nat) (hq : q < N) (hq0 : 0 < q) :
    fftshift G ⟨N + q, by omega⟩ = G ⟨q, by omega⟩ ∧
    fftshift G ⟨N - q, by omega⟩ = G (refl ⟨q, by omega⟩) := by
  refine ⟨fftshift_add_half G q hq, (fftshift_apply (by omega) G _).trans (congrArg G (Fin.ext ?_))⟩
  show (N - q + (2 * N - 2 * N / 2)) % (2 * N) = (2 * N - q) % (2 * N)
  rw [Nat.mul_div_cancel_left N two_pos, show N - q + (2 * N - N) = 2 * N - q by omega]

/-- **the even Fourier part is even in frequency**: `EvenFTCorrelationFunction.data[N+q] = data[N−q]`
for every length `N` and every real correlation data -/
theorem even_part_is_even {N : Nat} (star : α → α) (ζ dt : α) (y : Fin N → α) (hy : ∀ i, star (y i) = y i)
    (q : Nat) (hq : q < N) (hq0 : 0 < q) :
    ftUpper star ζ dt y ⟨N + q, by omega⟩ = ftUpper star ζ dt y ⟨N - q, by omega⟩ := by
  unfold ftUpper
  obtain ⟨e1, e2⟩ := fftshift_upper (dft ζ (completeUpper star y)) q hq hq0
  rw [e1, e2, dft_even ζ _ (completeUpper_sym star y hy)]

/-- **the odd Fourier part**: for purely imaginary data (`conj y = −y`) the values at `±q` add up to
`2·y[0]·dt`, a purely imaginary number whose real part - the stored data - is zero -/
theorem odd_part_sum {N : Nat} (star : α → α) (ζ dt : α) (y : Fin N → α) (hy : ∀ i, star (y i) = - y i)
    (q : Nat) (hq : q < N) (hq0 : 0 < q) :
    ftUpper star ζ dt y ⟨N - q, by omega⟩ + ftUpper star ζ dt y ⟨N + q, by omega⟩
      = 2 * y ⟨0, by omega⟩ * dt := by
  unfold ftUpper
  obtain ⟨e1, e2⟩ := fftshift_upper (dft ζ (completeUpper star y)) q hq hq0
  rw [e1, e2, ← add_mul, dft_odd (by omega) ζ _ (completeUpper_antisym star y hy),
    completeUpper_lt star y (by show 0 < N; omega)]

/-- **the odd Fourier part is odd in frequency**: `OddFTCorrelationFunction.data[N−q] = −data[N+q]`
(the data are the real parts) for a real time step and purely imaginary input -/
theorem odd_part_is_odd {N : Nat} (ζ : ℂ) (dt : ℝ) (y : Fin N → ℂ) (hy : ∀ i, (y i).re = 0)
    (q : Nat) (hq : q < N) (hq0 : 0 < q) :
    (ftUpper (starRingEnd ℂ) ζ (dt : ℂ) y ⟨N - q, by omega⟩).re
      = - (ftUpper (starRingEnd ℂ) ζ (dt : ℂ) y ⟨N + q, by omega⟩).re := by
  have hy' (i) : (starRingEnd ℂ) (y i) = - y i := Complex.ext (by simp [hy i]) (by simp)
  apply eq_neg_of_add_eq_zero_left
  rw [← Complex.add_re, odd_part_sum (starRingEnd ℂ) ζ (dt : ℂ) y hy' q hq hq0]
  simp [hy]

theorem even_part_is_even_complex {N : Nat} (ζ : ℂ) (dt : ℝ) (y : Fin N → ℂ) (hy : ∀ i, (y i).im = 0)
    (q : Nat) (hq : q < N) (hq0 : 0 < q) :
    (ftUpper (starRingEnd ℂ) ζ (dt : ℂ) y ⟨N + q, by omega⟩).re
      = (ftUpper (starRingEnd ℂ) ζ (dt : ℂ) y ⟨N - q, by omega⟩).re := by
  rw [even_part_is_even (starRingEnd ℂ) ζ (dt : ℂ) y (fun i => Complex.conj_eq_iff_im.mpr (hy i)) q hq hq0]

end QV.C09
