import QV.Props.C03
import Mathlib.Data.List.Nodup
import Mathlib.Data.List.Basic

/-!
# C03 — the generated list of electronic states is complete and free of duplicates
For two-level molecules (`omax = [1,…,1]`): band `k` of `elsignatures` holds every 0/1 signature of length `N`
with `k` excitations exactly once, for every `N` and `k`.
-/
namespace QV.C03

theorem replicate_get_one (N i : Nat) (h : i < N) : (List.replicate N 1)[i]?.getD 0 = 1 := by
  rw [getD_replicate, if_pos h]

theorem mem_addExcitation (N : Nat) (ins : List (List Nat × Nat)) (r : List Nat × Nat) :
    r ∈ addExcitation (List.replicate N 1) ins ↔
      ∃ p ∈ ins, ∃ i, i < p.1.length ∧ p.2 ≤ i ∧ p.1[i]?.getD 0 < (List.replicate N 1)[i]?.getD 0 ∧ r = (inc p.1 i, i) :=
  mem_addExcitation_iff

/-- the signature determines the item: the last excitation of each is an excitation of the other, so neither lies
behind the other -/
theorem item_of_sig (N k : Nat) (p q : List Nat × Nat) (hp : ItemInv N k p) (hq : ItemInv N k q) (h : p.1 = q.1) : p = q := by
  refine Prod.ext h ?_
  by_cases hk : k = 0
  · rw [hp.2.2.2 hk, hq.2.2.2 hk]
  · have p_at := hp.2.2.1 (Nat.pos_of_ne_zero hk)  -- `p.1` is 1 at `p.2`
    have q_at := hq.2.2.1 (Nat.pos_of_ne_zero hk)
    have p_behind := hp.2.1 q.2  -- `p.1` is 0 at `q.2` if `p.2 < q.2`
    have q_behind := hq.2.1 p.2
    rw [h] at p_at p_behind
    omega

theorem inc_inj (a b : List Nat) (i : Nat) (hl : a.length = b.length) (h : inc a i = inc b i) : a = b := by
  refine List.ext_getElem? fun j => ?_
  have := congrArg (·[j]?) h
  grind [inc_eq_modify]

/-- **no electronic state is generated twice** (items, hence signatures, of a band are pairwise different) -/
theorem bandItems_nodup (N : Nat) : ∀ k, (bandItems (List.replicate N 1) k).Nodup := by
  intro k
  induction k with
  | zero => simp [bandItems]
  | succ k ih =>
    rw [bandItems, addExcitation, List.nodup_flatMap]
    refine ⟨fun p _ => (List.nodup_range.filter _).map fun i j hij => (Prod.ext_iff.1 hij).2, ih.imp_of_mem ?_⟩
    -- an item that arises from `p` and from `q` arises by the same site; then `p` and `q` have the same signature
    intro p q hp hq hne r hr1 hr2
    obtain ⟨i, _, rfl⟩ := List.mem_map.1 hr1
    obtain ⟨j, _, hj⟩ := List.mem_map.1 hr2
    obtain ⟨e, rfl⟩ := Prod.ext_iff.1 hj
    have ip := bandItems_inv N k p hp
    have iq := bandItems_inv N k q hq
    exact hne (item_of_sig N k p q ip iq (inc_inj p.1 q.1 j (ip.1.1.trans iq.1.1.symm) e.symm))

theorem bandSigs_nodup (N k : Nat) : (bandSigs (List.replicate N 1) k).Nodup :=
  (bandItems_nodup N k).map_on fun p hp q hq h =>
    item_of_sig N k p q (bandItems_inv N k p hp) (bandItems_inv N k q hq) h

theorem sum_zero_get (l : List Nat) (h : l.sum = 0) (j : Nat) : l[j]?.getD 0 = 0 := by
  cases hj : l[j]? with
  | none => rfl
  | some v => exact List.sum_eq_zero_iff_forall_eq_nat.1 h v (List.mem_of_getElem? hj)

theorem lt_length_of_getD {l : List Nat} {m : Nat} (h : l[m]?.getD 0 ≠ 0) : m < l.length := by
  grind

theorem exists_last_ne_zero (l : List Nat) (hs : l.sum ≠ 0) :
    ∃ m : Nat, l[m]?.getD 0 ≠ 0 ∧ ∀ j : Nat, m < j → l[j]?.getD 0 = 0 := by
  induction l with
  | nil => exact absurd rfl hs
  | cons x xs ih =>
    by_cases hx : xs.sum = 0
    · exact ⟨0, by simpa [hx] using hs, fun | j + 1, _ => sum_zero_get xs hx j⟩
    · obtain ⟨m, hm, hz⟩ := ih hx
      exact ⟨m + 1, hm, fun | j + 1, hj => hz j (Nat.lt_of_succ_lt_succ hj)⟩

theorem exists_last_one (l : List Nat) (h1 : ∀ i : Nat, l[i]?.getD 0 ≤ 1) (hs : 1 ≤ l.sum) :
    ∃ m : Nat, l[m]?.getD 0 = 1 ∧ ∀ j : Nat, m < j → l[j]?.getD 0 = 0 := by
  obtain ⟨m, hm, hz⟩ := exists_last_ne_zero l (by omega)
  exact ⟨m, by have := h1 m; omega, hz⟩

theorem getD_set_zero (l : List Nat) (m j : Nat) : (l.set m 0)[j]?.getD 0 = if j = m then 0 else l[j]?.getD 0 := by
  grind

theorem inc_set_zero (l : List Nat) (m : Nat) (h : l[m]?.getD 0 = 1) : inc (l.set m 0) m = l :=
  List.ext_getElem? fun j => by grind [inc_eq_modify]

theorem Sound.set_zero {N k : Nat} {σ : List Nat} (h : Sound N (k + 1) σ) {m : Nat} (hm : σ[m]?.getD 0 = 1) :
    Sound N k (σ.set m 0) := by
  refine ⟨by rw [List.length_set, h.1], ?_, fun i => ?_⟩
  · -- `inc` at `m` restores `σ` (`inc_set_zero`) and adds one to the sum (`inc_sum`)
    have := inc_sum (σ.set m 0) m (by rw [List.length_set]; exact lt_length_of_getD (by omega))
    rw [inc_set_zero σ m hm, h.2.1] at this
    omega
  · rw [getD_set_zero]
    split
    · exact Nat.zero_le 1
    · exact h.2.2 i

/-- **every 0/1 signature with `k` excitations is generated** -/
theorem bandSigs_complete (N : Nat) : ∀ k σ, Sound N k σ → σ ∈ bandSigs (List.replicate N 1) k := by
  intro k
  induction k with
  | zero =>
    intro σ ⟨hl, hs, _⟩
    rw [List.eq_replicate_iff.2 ⟨hl, List.sum_eq_zero_iff_forall_eq_nat.1 hs⟩]
    simp [bandSigs, bandItems]
  | succ k ih =>
    intro σ hσ
    -- take away the last excitation `m`: what is left is the signature of an item `p` of band `k`
    obtain ⟨m, hm, hz⟩ := exists_last_one σ hσ.2.2 (by have := hσ.2.1; omega)
    have hmN : m < N := hσ.1 ▸ lt_length_of_getD (by omega)
    obtain ⟨⟨_, l⟩, hp, rfl⟩ := List.mem_map.1 (ih (σ.set m 0) (hσ.set_zero hm))
    obtain ⟨hs, -, h1, h0⟩ := bandItems_inv N k _ hp
    have hzero : ∀ j, m ≤ j → (σ.set m 0)[j]?.getD 0 = 0 := fun j hj => by
      rw [getD_set_zero]
      split
      · rfl
      · exact hz j (by omega)
    -- `_add_excitation` may excite `p` at `m`, as its last excitation `l` is not behind `m`: in band 0, `l = 0` (`h0`);
    -- in a higher band `p` is excited at `l` (`h1`) but is 0 from `m` on (`hzero`), so `l < m`
    have hle : l ≤ m := by
      have := hzero l
      dsimp only at h1 h0
      omega
    refine List.mem_map.2 ⟨(_, m), (mem_addExcitation N _ _).mpr ⟨_, hp, m, hs.1 ▸ hmN, hle, ?_, rfl⟩, inc_set_zero σ m hm⟩
    rw [replicate_get_one N m hmN, hzero m m.le_refl]
    exact Nat.one_pos

/-- **the list of electronic states** of `N` two-level molecules up to `mult` excitations **holds every 0/1
signature with at most `mult` excitations, each exactly once** -/
theorem elsigs_complete_nodup (N mult : Nat) :
    (elsigs (List.replicate N 1) mult).Nodup ∧
    ∀ σ : List Nat, σ ∈ elsigs (List.replicate N 1) mult ↔ (σ.length = N ∧ σ.sum ≤ mult ∧ ∀ i : Nat, σ[i]?.getD 0 ≤ 1) := by
  constructor
  · unfold elsigs
    rw [List.nodup_flatMap]
    exact ⟨fun k _ => bandSigs_nodup N k, List.nodup_range.imp_of_mem fun _ _ hab σ ha hb =>
      hab ((bandSigs_sound ha).2.1.symm.trans (bandSigs_sound hb).2.1)⟩
  · exact fun σ => ⟨elsigs_sound N mult σ, fun ⟨hl, hs, h1⟩ =>
      List.mem_flatMap.2 ⟨σ.sum, List.mem_range.2 (by omega), bandSigs_complete N σ.sum σ ⟨hl, rfl, h1⟩⟩⟩

end QV.C03
