import QV.Lemmas.Operators
import QV.Lemmas.TruncBound

/-!
# C08 — evolution superoperator is an identity-started semigroup matching propagation
The grid structure is proved in an arbitrary monoid (the model's `denseStep`,
`evolAll`, `evolJit` are generic in the composition); `tcomp_assoc`/`tcomp_ident`
are the monoid laws of superoperators under `numpy.tensordot` with the δδ identity, stated entry by
entry (on `.fn`); the `Monoid` instance that would apply the grid theorems to `tensMul` is not built.
-/
namespace QV.Prop
open QV.C01 Finset

section monoid
variable {M : Type} [Monoid M]

theorem denseStep_eq_pow (U1 : M) (k : Nat) : denseStep U1 k = U1 ^ (k + 1) := by
  induction k with
  | zero => simp [denseStep]
  | succ k ih => rw [denseStep, ih, ← pow_succ']

theorem evolAll_go (Udt : M) : ∀ (k : Nat) (u : M) (i : Nat), i < k →
    (evolAll.go Udt k u)[i]? = some (Udt ^ i * u)
  | _ + 1, u, 0, _ => by rw [pow_zero, one_mul]; rfl
  | k + 1, u, i + 1, h => by
    rw [pow_succ, mul_assoc]
    exact evolAll_go Udt k (Udt * u) i (Nat.lt_of_succ_lt_succ h)

/-- **`calculate()`: `U(t_0) = 1` and `U(t_i) = U_dt^i`** -/
theorem evolAll_get (Udt : M) (nt i : Nat) (h : i < nt) : (evolAll 1 Udt nt)[i]? = some (Udt ^ i) :=
  match nt, i, h with
  | _ + 1, 0, _ => by rw [pow_zero]; rfl
  | nt + 1, i + 1, h => (evolAll_go Udt nt Udt i (Nat.lt_of_succ_lt_succ h)).trans (by rw [pow_succ])

/-- **semigroup on the time grid**: `U(t_i + t_j) = U(t_i) U(t_j)` -/
theorem semigroup (Udt : M) (nt i j : Nat) (h : i + j < nt) :
    ∃ a b c, (evolAll 1 Udt nt)[i]? = some a ∧ (evolAll 1 Udt nt)[j]? = some b ∧
      (evolAll 1 Udt nt)[i + j]? = some c ∧ c = a * b :=
  ⟨Udt ^ i, Udt ^ j, Udt ^ (i + j), evolAll_get Udt nt i (by omega), evolAll_get Udt nt j (by omega),
    evolAll_get Udt nt (i + j) h, pow_add Udt i j⟩

theorem U_zero (Udt : M) (nt : Nat) (h : 0 < nt) : (evolAll 1 Udt nt)[0]? = some 1 := by
  rw [evolAll_get Udt nt 0 h, pow_zero]

theorem evolJit_eq_pow (Udt : M) (k : Nat) : evolJit Udt k = Udt ^ (k + 1) := by
  induction k with
  | zero => simp [evolJit]
  | succ k ih => rw [evolJit, ih, ← pow_succ']

/-- **what `k+1` calls of `calculate_next()` leave in the store is exactly the value `calculate()` stores at time index
`k+1`** (any number of steps) -/
theorem jit_eq_all (Udt : M) (nt k : Nat) (h : k + 1 < nt) :
    (evolAll 1 Udt nt)[k + 1]? = some (evolJit Udt k) := by
  rw [evolJit_eq_pow]; exact evolAll_get Udt nt (k + 1) h

/-- with `Ndense = Nd + 1` internal steps (`Nd` multiplications, `range(2, Ndense+1)`), `U(t_i) = U_1^{Ndense·i}` -/
theorem U_grid (U1 : M) (Nd nt i : Nat) (h : i < nt) :
    (evolAll 1 (denseStep U1 Nd) nt)[i]? = some (U1 ^ ((Nd + 1) * i)) := by
  rw [evolAll_get _ nt i h, denseStep_eq_pow, pow_mul]
end monoid

section tens
variable {α : Type} [CommRing α] {n : Nat}

theorem tcomp_fn (A B : TensD α n) :
    (tcomp A B).fn = fun a b e f => ∑ c, ∑ d, A.fn a b c d * B.fn c d e f := by
  simp only [tcomp, TensD.fn_tab, sumFin_eq_sum]

theorem sum4_comm {β : Type} [AddCommMonoid β] (F : Fin n → Fin n → Fin n → Fin n → β) :
    ∑ c, ∑ d, ∑ x, ∑ y, F c d x y = ∑ x, ∑ y, ∑ c, ∑ d, F c d x y :=
  sum4_comm_congr fun _ _ _ _ => rfl

theorem tcomp_assoc (A B C : TensD α n) : (tcomp (tcomp A B) C).fn = (tcomp A (tcomp B C)).fn := by
  funext a b e f
  simp only [tcomp_fn, Finset.sum_mul, Finset.mul_sum]
  exact sum4_comm_congr fun _ _ _ _ => mul_assoc _ _ _

theorem tcomp_ident (A : TensD α n) : (tcomp tident A).fn = A.fn ∧ (tcomp A tident).fn = A.fn := by
  constructor <;> funext a b e f
  · simp only [tcomp_fn, tident, TensD.fn_tab, ite_mul, one_mul, zero_mul]
    exact sum_sum_ite_and a b _
  · simp only [tcomp_fn, tident, TensD.fn_tab, mul_ite, mul_one, mul_zero]
    exact sum_sum_ite_and' e f _

theorem tensApply_tcomp (A B : TensD α n) (ρ : Mat α n) :
    tensApply (tcomp A B).fn ρ = tensApply A.fn (tensApply B.fn ρ) := by
  funext a b
  simp only [tensApply_eq, tcomp_fn, Finset.sum_mul, Finset.mul_sum]
  exact sum4_comm_congr fun _ _ _ _ => mul_assoc _ _ _
end tens

section bound
variable {𝔸 : Type} [NormedRing 𝔸] [NormOneClass 𝔸] [NormedAlgebra ℚ 𝔸] [CompleteSpace 𝔸]

/-- in the algebra of superoperators `m` elementary steps started from `1` are the `m`-th power of the Taylor polynomial
of `dt_d·𝓛` (`taylorSteps_alg` at `y = 1`); with `m = Ndense·i` this is the superoperator `U_grid` speaks of -/
theorem U_is_power_of_taylor_polynomial (𝓛 : 𝔸) (dtd : ℚ) (L m : ℕ) :
    taylorSteps (algGen 𝓛) (· + ·) dtd L m 1 = taylorPoly (L + 1) (dtd • 𝓛) ^ m := by
  rw [taylorSteps_alg, mul_one]

/-- **refining the internal step changes `U(t)` only within the sum of the truncation bounds** of the two expansions
(`refinement_within_bounds` at `y = 1`) -/
theorem refine_bound (𝓛 : 𝔸) (dt : ℚ) (L m N : ℕ) (hN : 0 < N) :
    ‖taylorSteps (algGen 𝓛) (· + ·) dt L m 1 - taylorSteps (algGen 𝓛) (· + ·) (dt / N) L (m * N) 1‖ ≤
      ((m * Real.exp ‖dt • 𝓛‖ ^ (m - 1) *
          (Real.exp ‖dt • 𝓛‖ - ∑ k ∈ range (L + 1), ‖dt • 𝓛‖ ^ k / k.factorial))
        + ((m * N : ℕ) * Real.exp ‖(dt / N) • 𝓛‖ ^ (m * N - 1) *
          (Real.exp ‖(dt / N) • 𝓛‖ - ∑ k ∈ range (L + 1), ‖(dt / N) • 𝓛‖ ^ k / k.factorial))) := by
  simpa only [norm_one, mul_one] using refinement_within_bounds 𝓛 dt L m N hN (1 : 𝔸)
end bound

end QV.Prop
