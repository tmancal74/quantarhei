import QV.Model.C12W
import QV.Lemmas.Bridge
import Mathlib.Algebra.BigOperators.Ring.Finset
import Mathlib.Tactic.Ring

/-!
# C12 — additivity for uncoupled molecules rests on the widths of the 1→2 transitions

For molecules that are not coupled the eigenvector matrix is the identity.  The excited-state absorption
pathway `a → (a,b)` then has to carry exactly the line shape of molecule `b` (the one being excited): only
then does it cancel the cross-peak pathways and leave the sum of the single-molecule responses.  The three
blocks built by `diagonalize`, combined as in `get_transition_width` / `get_transition_dephasing`, give
exactly that - for the Gaussian widths and, since the repair of the missing dephasing blocks, for the
Lorentzian rates (same functions, `w` = rates).  The blocks themselves are tied to the code by the
correspondence on coupled aggregates (driver op `widths`).
-/
namespace QV.C12W

section
variable {α : Type} [CommRing α]

theorem sq_kd {n : Nat} (i j : Fin n) : sq (kd i j : α) = kd i j := by
  unfold sq kd
  split_ifs <;> simp

theorem sum_mul_kd {n : Nat} (f : Fin n → α) (a : Fin n) : ∑ k, f k * kd k a = f a := by
  simp [kd]

theorem oneDiag_uncoupled {N1 : Nat} (w : Fin N1 → α) (a : Fin N1) :
    oneDiag (fun i j => kd i j) w a = w a := by
  simp only [oneDiag, sumFin_eq_sum, sq_kd, sum_mul_kd]

theorem cross_uncoupled {N1 M : Nat} (w : Fin N1 → α) (tw : Fin M → Fin N1 × Fin N1) (A : Fin M) (a : Fin N1) :
    cross (fun i j => kd i j) (fun i j => kd i j) w tw A a
      = w (tw A).1 * kd (tw A).1 a + w (tw A).2 * kd (tw A).2 a := by
  simp only [cross, sumFin_eq_sum, sq_kd, sum_mul_kd]

theorem kappa_uncoupled {N1 M : Nat} (tw : Fin M → Fin N1 × Fin N1) (n : Fin N1) (A : Fin M) :
    kappa (α := α) (fun i j => kd i j) tw n A = kd n (tw A).1 + kd n (tw A).2 := by
  simp only [kappa, sumFin_eq_sum, sq_kd, sum_mul_kd]

theorem twoDiag_uncoupled {N1 M : Nat} (w : Fin N1 → α) (tw : Fin M → Fin N1 × Fin N1) (A : Fin M)
    (hne : (tw A).1 ≠ (tw A).2) :
    twoDiag (fun i j => kd i j) w tw A = w (tw A).1 + w (tw A).2 := by
  simp only [twoDiag, sumFin_eq_sum, sq_kd, kappa_uncoupled, mul_comm (kd _ A), sum_mul_kd]
  -- κ of a constituent site is `1 + 0` as the two differ (`hne`); a doubly excited site would count 2
  simp [kd, hne, hne.symm]

/-- **uncoupled molecules, transition `k → (k,l)`**: the width / dephasing rate is that of molecule `l` -/
theorem uncoupled_first {N1 M : Nat} (w : Fin N1 → α) (tw : Fin M → Fin N1 × Fin N1) (A : Fin M)
    (hne : (tw A).1 ≠ (tw A).2) :
    transWidth (fun i j => kd i j) (fun i j => kd i j) w tw (tw A).1 A = w (tw A).2 := by
  simp only [transWidth, oneDiag_uncoupled, cross_uncoupled, twoDiag_uncoupled w tw A hne]
  -- `w k + (w k + w l) - 2 (w k * 1 + w l * 0)`
  simp [kd, hne.symm]

/-- **uncoupled molecules, transition `l → (k,l)`**: the width / dephasing rate is that of molecule `k` -/
theorem uncoupled_second {N1 M : Nat} (w : Fin N1 → α) (tw : Fin M → Fin N1 × Fin N1) (A : Fin M)
    (hne : (tw A).1 ≠ (tw A).2) :
    transWidth (fun i j => kd i j) (fun i j => kd i j) w tw (tw A).2 A = w (tw A).1 := by
  simp only [transWidth, oneDiag_uncoupled, cross_uncoupled, twoDiag_uncoupled w tw A hne]
  simp [kd, hne]

/-- what the unrepaired Lorentzian branch computed (two-exciton and cross blocks never built, i.e. zero):
the rate of the molecule that was excited *before*, not of the one being excited — the recorded
non-additivity for unequal rates -/
theorem unbuilt_blocks_witness {N1 : Nat} (w : Fin N1 → α) (a : Fin N1) :
    oneDiag (fun i j => kd i j) w a + 0 - (0 + 0) = w a := by
  rw [oneDiag_uncoupled]; ring
end

/-- non-vacuity: heterodimer, states g,1,2 and the two-exciton state (1,2); rates 3 and 5 -/
example : transWidth (α := Int) (N1 := 3) (M := 1) (fun i j => kd i j) (fun i j => kd i j)
    (fun n => if n = 1 then 3 else if n = 2 then 5 else 0) (fun _ => (1, 2)) 1 0 = 5 := by decide

end QV.C12W
