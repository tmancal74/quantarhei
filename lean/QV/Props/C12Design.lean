import QV.Props.C12Average
import QV.Lemmas.Bridge
import Mathlib.Data.Fintype.Pi
import Mathlib.Data.Fintype.Prod
import Mathlib.Data.Rat.Cast.Order
import Mathlib.Data.Rat.BigOperators

/-!
# C12 — an averaging functional with the assumed properties exists (explicit finite design)
`RotationAverage` is inhabited by `designAvg`, a rational weighted 4-design of SO(3): the mean over the 24 rotations
`P` of the cube and the mean over the products `P Q₁ P'`, `Q₁` the half turn about (1,1,1), with the weights fixed by the
one condition that the cubic anisotropy cancels.  So `orientational_average` is not vacuous, and the existence of the
Haar average is not needed.
-/
namespace QV.C12

abbrev Mq := Fin 3 → Fin 3 → ℚ
def mulMq (A B : Mq) : Mq := fun i j => A i 0 * B 0 j + A i 1 * B 1 j + A i 2 * B 2 j
def trMq (Q : Mq) : Mq := fun i j => Q j i
def castM (A : Mq) : M3 := fun i j => (A i j : ℝ)

theorem mulMq_sum (A B : Mq) (i j : Fin 3) : mulMq A B i j = ∑ k, A i k * B k j := by
  rw [Fin.sum_univ_three]; rfl

theorem castM_mul (A B : Mq) : castM (mulMq A B) = mulM (castM A) (castM B) := by
  funext i j
  simp only [castM, mulMq_sum, mulM, Rat.cast_sum, Rat.cast_mul]

def oneq : Mq := fun i j => if i = j then 1 else 0

theorem mulMq_one (A : Mq) : mulMq A oneq = A := by
  funext i j
  simp only [mulMq_sum, oneq, mul_ite, mul_one, mul_zero, Fintype.sum_ite_eq']

theorem one_mulMq (A : Mq) : mulMq oneq A = A := by
  funext i j
  simp only [mulMq_sum, oneq, ite_mul, one_mul, zero_mul, Fintype.sum_ite_eq]

theorem mulMq_assoc (A B C : Mq) : mulMq (mulMq A B) C = mulMq A (mulMq B C) := by
  funext i j
  simp only [mulMq]
  ring

def permTab : Fin 6 → Fin 3 → Fin 3 := ![![0,1,2],![0,2,1],![1,0,2],![1,2,0],![2,0,1],![2,1,0]]
def sgnTab : Fin 6 → ℚ := ![1,-1,-1,1,1,-1]
/-- the four sign patterns with product one: the identity and the half turns about the axes 0, 1, 2 -/
def baseSign : Fin 4 → Fin 3 → ℚ := ![![1,1,1],![1,-1,-1],![-1,1,-1],![-1,-1,1]]
abbrev Idx := Fin 6 × Fin 4
/-- the 24 rotations of the cube: signed permutation matrices of determinant one (the factor `sgnTab` on every row makes
up for the parity of the permutation) -/
def Pq (n : Idx) : Mq := fun i p => if p = permTab n.1 i then baseSign n.2 i * sgnTab n.1 else 0
def allIdx : List Idx := (List.finRange 6).flatMap fun s => (List.finRange 4).map fun e => (s, e)
/-- the index of `M` among the 24; the default `(0, 0)` is not taken when `M` is one of them (`findIdx_spec`), as a
product of two of them is (`Pq_closed`) -/
def findIdx (M : Mq) : Idx := (allIdx.find? (fun n => decide (Pq n = M))).getD (0, 0)

theorem Pq_mulMq (n : Idx) (A : Mq) (i a : Fin 3) :
    mulMq (Pq n) A i a = baseSign n.2 i * sgnTab n.1 * A (permTab n.1 i) a := by
  simp only [mulMq_sum, Pq, ite_mul, zero_mul, Fintype.sum_ite_eq']

theorem mulMq_tr (A B : Mq) (i j : Fin 3) : mulMq A B i j = mulMq (trMq B) (trMq A) j i := by
  simp only [mulMq, trMq, mul_comm]

theorem mem_allIdx : ∀ n : Idx, n ∈ allIdx := by decide +kernel

theorem findIdx_spec {M : Mq} (h : ∃ n, Pq n = M) : Pq (findIdx M) = M := by
  obtain ⟨n, rfl⟩ := h
  unfold findIdx
  cases hf : allIdx.find? (fun m => decide (Pq m = Pq n)) with
  | none => simpa using List.find?_eq_none.mp hf n (mem_allIdx n)
  | some m => simpa using List.find?_some hf

theorem perm_closed : ∀ s s' : Fin 6,
    ∃ t, (∀ i, permTab t i = permTab s' (permTab s i)) ∧ sgnTab t = sgnTab s * sgnTab s' := by
  decide +kernel

theorem sign_closed : ∀ (e e' : Fin 4) (s : Fin 6), ∃ f, ∀ i, baseSign f i = baseSign e i * baseSign e' (permTab s i) := by
  decide +kernel

theorem Pq_closed (a n : Idx) : ∃ m, Pq m = mulMq (Pq a) (Pq n) := by
  obtain ⟨t, ht, hsg⟩ := perm_closed a.1 n.1
  obtain ⟨f, hf⟩ := sign_closed a.2 n.2 a.1
  refine ⟨(t, f), ?_⟩
  funext i p
  simp only [Pq_mulMq, Pq, ht, hf, hsg, mul_ite, mul_zero]
  congr 1
  ring

theorem Pq_inj : Function.Injective Pq := by decide +kernel

theorem Pq_tr : ∀ n, ∃ m, Pq m = trMq (Pq n) := by decide +kernel

theorem sum_Pq_tr (g : Mq → ℚ) : ∑ n, g (trMq (Pq n)) = ∑ n, g (Pq n) := by
  choose τ hτ using Pq_tr
  have hinv : Function.Involutive τ := fun n => Pq_inj (by rw [hτ, hτ]; rfl)
  simpa only [hτ] using hinv.bijective.sum_comp fun n => g (Pq n)

def Qzq : Mq := ![![0,-1,0],![1,0,0],![0,0,1]]
def Qxq : Mq := ![![1,0,0],![0,0,-1],![0,1,0]]
/-- the index of `Q Pₙ` among the 24; `rTab`: that of `Pₙ Qᵀ` -/
def lTab (Q : Mq) (n : Idx) : Idx := findIdx (mulMq Q (Pq n))
def rTab (Q : Mq) (n : Idx) : Idx := findIdx (mulMq (Pq n) (trMq Q))

/-- `t`: induced on the 24 by a map `F` of matrices with left inverse `G` -/
theorem tab_inj {F G : Mq → Mq} (hG : ∀ M, G (F M) = M) {t : Idx → Idx} (hs : ∀ n, F (Pq n) = Pq (t n)) :
    Function.Injective t := fun n n' h => Pq_inj <| by
  rw [← hG (Pq n), hs, h, ← hs, hG]

theorem quarter_turns : Qzq = Pq (2, 1) ∧ Qxq = Pq (1, 2) ∧ trMq Qzq = Pq (2, 2) ∧ trMq Qxq = Pq (1, 3) := by
  decide +kernel

theorem quarter_turns_inv : mulMq (trMq Qzq) Qzq = oneq ∧ mulMq (trMq Qxq) Qxq = oneq := by decide +kernel

theorem lTab_spec_z : ∀ n, mulMq Qzq (Pq n) = Pq (lTab Qzq n) := fun n => by
  rw [lTab, quarter_turns.1, findIdx_spec (Pq_closed _ n)]
theorem lTab_spec_x : ∀ n, mulMq Qxq (Pq n) = Pq (lTab Qxq n) := fun n => by
  rw [lTab, quarter_turns.2.1, findIdx_spec (Pq_closed _ n)]
theorem rTab_spec_z : ∀ n, mulMq (Pq n) (trMq Qzq) = Pq (rTab Qzq n) := fun n => by
  rw [rTab, quarter_turns.2.2.1, findIdx_spec (Pq_closed n _)]
theorem rTab_spec_x : ∀ n, mulMq (Pq n) (trMq Qxq) = Pq (rTab Qxq n) := fun n => by
  rw [rTab, quarter_turns.2.2.2, findIdx_spec (Pq_closed n _)]
theorem lTab_inj_z : Function.Injective (lTab Qzq) :=
  tab_inj (G := mulMq (trMq Qzq)) (fun M => by rw [← mulMq_assoc, quarter_turns_inv.1, one_mulMq]) lTab_spec_z
theorem lTab_inj_x : Function.Injective (lTab Qxq) :=
  tab_inj (G := mulMq (trMq Qxq)) (fun M => by rw [← mulMq_assoc, quarter_turns_inv.2, one_mulMq]) lTab_spec_x
theorem rTab_inj_z : Function.Injective (rTab Qzq) :=
  tab_inj (F := (mulMq · (trMq Qzq))) (G := (mulMq · Qzq)) (fun M => by rw [mulMq_assoc, quarter_turns_inv.1, mulMq_one]) rTab_spec_z
theorem rTab_inj_x : Function.Injective (rTab Qxq) :=
  tab_inj (F := (mulMq · (trMq Qxq))) (G := (mulMq · Qxq)) (fun M => by rw [mulMq_assoc, quarter_turns_inv.2, mulMq_one]) rTab_spec_x
theorem Pq_ortho : ∀ (n : Idx) (a b : Fin 3), Pq n 0 a * Pq n 0 b + Pq n 1 a * Pq n 1 b + Pq n 2 a * Pq n 2 b = if a = b then 1 else 0 := by
  decide +kernel

def Q1q : Mq := ![![-1/3, 2/3, 2/3], ![2/3, -1/3, 2/3], ![2/3, 2/3, -1/3]]

theorem Q1q_ortho : ∀ (a b : Fin 3), Q1q 0 a * Q1q 0 b + Q1q 1 a * Q1q 1 b + Q1q 2 a * Q1q 2 b = if a = b then 1 else 0 := by
  decide +kernel

noncomputable def Aavg (g : M3 → ℝ) : ℝ := (1 / 24) * ∑ n : Idx, g (castM (Pq n))

noncomputable def designAvg (f : M3 → ℝ) : ℝ :=
  13 / 40 * Aavg f + 27 / 40 * Aavg (fun R => Aavg (fun R' => f (mulM (mulM R (castM Q1q)) R')))

theorem Aavg_add (f g : M3 → ℝ) : Aavg (fun R => f R + g R) = Aavg f + Aavg g := by
  simp only [Aavg, Finset.sum_add_distrib]; ring
theorem Aavg_smul (c : ℝ) (f : M3 → ℝ) : Aavg (fun R => c * f R) = c * Aavg f := by
  simp only [Aavg, ← Finset.mul_sum]; ring
theorem Aavg_one : Aavg (fun _ => 1) = 1 := by
  simp [Aavg]
theorem Aavg_congr (f g : M3 → ℝ) (h : ∀ n, f (castM (Pq n)) = g (castM (Pq n))) : Aavg f = Aavg g := by
  simp only [Aavg, h]

theorem mulM_assoc (A B C : M3) : mulM (mulM A B) C = mulM A (mulM B C) := by
  funext i j
  simp only [mulM, Fin.sum_univ_three]
  ring

theorem Aavg_reindex (g : M3 → ℝ) (t : Idx → Idx) (ht : Function.Injective t) :
    Aavg (fun R => g R) = (1 / 24) * ∑ n : Idx, g (castM (Pq (t n))) := by
  rw [Aavg, ← (Finite.injective_iff_bijective.mp ht).sum_comp fun n => g (castM (Pq n))]

theorem castQz : castM Qzq = Qz := by
  simp [funext_iff, Fin.forall_fin_succ, castM, Qzq, Qz, σz, εz]
theorem castQx : castM Qxq = Qx := by
  simp [funext_iff, Fin.forall_fin_succ, castM, Qxq, Qx, σx, εx]
theorem castM_tr (Q : Mq) : castM (trMq Q) = trM (castM Q) := rfl

theorem Aavg_left (Qq : Mq) (hs : ∀ n, mulMq Qq (Pq n) = Pq (lTab Qq n)) (hi : Function.Injective (lTab Qq)) (g : M3 → ℝ) :
    Aavg (fun R => g (mulM (castM Qq) R)) = Aavg g := by
  rw [Aavg_reindex g _ hi]
  simp only [Aavg, ← castM_mul, hs]

theorem Aavg_right (Qq : Mq) (hs : ∀ n, mulMq (Pq n) (trMq Qq) = Pq (rTab Qq n)) (hi : Function.Injective (rTab Qq)) (g : M3 → ℝ) :
    Aavg (fun R => g (mulM R (trM (castM Qq)))) = Aavg g := by
  rw [Aavg_reindex g _ hi]
  simp only [Aavg, ← castM_tr, ← castM_mul, hs]

theorem design_left (Qq : Mq) (hs : ∀ n, mulMq Qq (Pq n) = Pq (lTab Qq n)) (hi : Function.Injective (lTab Qq)) (f : M3 → ℝ) :
    designAvg (fun R => f (mulM (castM Qq) R)) = designAvg f := by
  unfold designAvg
  rw [Aavg_left Qq hs hi f, ← Aavg_left Qq hs hi (fun S => Aavg (fun R' => f (mulM (mulM S (castM Q1q)) R')))]
  simp only [mulM_assoc]

theorem design_right (Qq : Mq) (hs : ∀ n, mulMq (Pq n) (trMq Qq) = Pq (rTab Qq n)) (hi : Function.Injective (rTab Qq)) (f : M3 → ℝ) :
    designAvg (fun R => f (mulM R (trM (castM Qq)))) = designAvg f := by
  have h : ∀ A, Aavg (fun R' => f (mulM (mulM A R') (trM (castM Qq)))) = Aavg fun R' => f (mulM A R') := fun A => by
    rw [← Aavg_right Qq hs hi fun S => f (mulM A S)]
    simp only [mulM_assoc]
  simp only [designAvg, h, Aavg_right Qq hs hi f]

theorem design_add (f g : M3 → ℝ) : designAvg (fun R => f R + g R) = designAvg f + designAvg g := by
  unfold designAvg
  simp only [Aavg_add]
  ring

theorem design_smul (c : ℝ) (f : M3 → ℝ) : designAvg (fun R => c * f R) = c * designAvg f := by
  unfold designAvg
  simp only [Aavg_smul]
  ring

theorem design_one : designAvg (fun _ => 1) = 1 := by
  unfold designAvg
  simp only [Aavg_one]
  norm_num

theorem design_zero : designAvg (fun _ => 0) = 0 := by
  simpa using design_smul 0 fun _ => 1

theorem design_sum {ι : Type} (s : Finset ι) (f : ι → M3 → ℝ) :
    designAvg (fun R => ∑ x ∈ s, f x R) = ∑ x ∈ s, designAvg (f x) :=
  linear_sum design_add design_smul s f

theorem design_sum4 (g : Fin 3 → Fin 3 → Fin 3 → Fin 3 → ℝ) (f : Fin 3 → Fin 3 → Fin 3 → Fin 3 → M3 → ℝ) :
    designAvg (fun R => ∑ p, ∑ q, ∑ r, ∑ s, g p q r s * f p q r s R) = ∑ p, ∑ q, ∑ r, ∑ s, g p q r s * designAvg (f p q r s) := by
  simp only [design_sum, design_smul]

theorem castM_ortho (A : Mq) (h : ∀ a b, A 0 a * A 0 b + A 1 a * A 1 b + A 2 a * A 2 b = if a = b then 1 else 0) :
    IsOrtho (castM A) := fun a b => by
  simpa [castM, Fin.sum_univ_three, apply_ite] using congrArg (Rat.cast (K := ℝ)) (h a b)

theorem ortho_mul (A B : M3) (hA : IsOrtho A) (hB : IsOrtho B) : IsOrtho (mulM A B) :=
  fun a b => (orth_dot A hA (B · a) (B · b)).trans (hB a b)

theorem design_supp (f g : M3 → ℝ) (h : ∀ R, IsOrtho R → f R = g R) : designAvg f = designAvg g := by
  have hP : ∀ n, IsOrtho (castM (Pq n)) := fun n => castM_ortho _ (Pq_ortho n)
  simp only [designAvg, Aavg, h _ (hP _), h _ (ortho_mul _ _ (ortho_mul _ _ (hP _) (castM_ortho _ Q1q_ortho)) (hP _))]

theorem mulM_signed (σ : Fin 3 → Fin 3) (ε : Fin 3 → ℝ) (R : M3) (i a : Fin 3) :
    mulM (fun i p => if p = σ i then ε i else 0) R i a = ε i * R (σ i) a := by
  simp only [mulM, ite_mul, zero_mul, Fintype.sum_ite_eq']

theorem mulM_Qz (R : M3) (i a : Fin 3) : mulM Qz R i a = εz i * R (σz i) a := mulM_signed σz εz R i a
theorem mulM_Qx (R : M3) (i a : Fin 3) : mulM Qx R i a = εx i * R (σx i) a := mulM_signed σx εx R i a
theorem mulM_trQz (R : M3) (i a : Fin 3) : mulM R (trM Qz) i a = εz a * R i (σz a) :=
  (mulM_trM R Qz i a).trans (mulM_Qz (trM R) a i)
theorem mulM_trQx (R : M3) (i a : Fin 3) : mulM R (trM Qx) i a = εx a * R i (σx a) :=
  (mulM_trM R Qx i a).trans (mulM_Qx (trM R) a i)

/-- invariance of the design under `Q` makes the averaged tensor `rot4 Q`-invariant (`linear_rot4`); for a signed
permutation that is a relation between single components (`rot4_signed`) -/
theorem T8d_row_z (i j k l a b c d : Fin 3) :
    T8 designAvg i j k l a b c d = εz i * εz j * εz k * εz l * T8 designAvg (σz i) (σz j) (σz k) (σz l) a b c d :=
  ((castQz ▸ design_left Qzq lTab_spec_z lTab_inj_z) _).symm.trans
    ((linear_rot4 design_add design_smul Qz i j k l).trans (rot4_signed σz εz _ i j k l))
theorem T8d_row_x (i j k l a b c d : Fin 3) :
    T8 designAvg i j k l a b c d = εx i * εx j * εx k * εx l * T8 designAvg (σx i) (σx j) (σx k) (σx l) a b c d :=
  ((castQx ▸ design_left Qxq lTab_spec_x lTab_inj_x) _).symm.trans
    ((linear_rot4 design_add design_smul Qx i j k l).trans (rot4_signed σx εx _ i j k l))
theorem T8d_col_z (i j k l a b c d : Fin 3) :
    T8 designAvg i j k l a b c d = εz a * εz b * εz c * εz d * T8 designAvg i j k l (σz a) (σz b) (σz c) (σz d) := by
  have h := (castQz ▸ design_right Qzq rTab_spec_z rTab_inj_z) fun R => R i a * R j b * R k c * R l d
  simp only [mulM_trM] at h
  exact h.symm.trans ((linear_rot4 design_add design_smul Qz a b c d).trans (rot4_signed σz εz _ a b c d))
theorem T8d_col_x (i j k l a b c d : Fin 3) :
    T8 designAvg i j k l a b c d = εx a * εx b * εx c * εx d * T8 designAvg i j k l (σx a) (σx b) (σx c) (σx d) := by
  have h := (castQx ▸ design_right Qxq rTab_spec_x rTab_inj_x) fun R => R i a * R j b * R k c * R l d
  simp only [mulM_trM] at h
  exact h.symm.trans ((linear_rot4 design_add design_smul Qx a b c d).trans (rot4_signed σx εx _ a b c d))

def monq (M : Mq) (i j k l a b c d : Fin 3) : ℚ := M i a * M j b * M k c * M l d
/-- `T8 designAvg` computed in ℚ (`T8d_cast`) -/
def t8q (i j k l a b c d : Fin 3) : ℚ :=
  13 / 40 * ((1 / 24) * ∑ n : Idx, monq (Pq n) i j k l a b c d)
  + 27 / 40 * ((1 / 24) * ∑ n : Idx, (1 / 24) * ∑ m : Idx, monq (mulMq (mulMq (Pq n) Q1q) (Pq m)) i j k l a b c d)

theorem T8d_cast (i j k l a b c d : Fin 3) : T8 designAvg i j k l a b c d = ((t8q i j k l a b c d : ℚ) : ℝ) := by
  unfold T8 designAvg Aavg t8q monq
  simp only [← castM_mul, castM]
  push_cast
  ring

/-- one representative of each class of components of the cubic form: `iijj`, `ijij`, `ijji`, `iiii` -/
def canon : Fin 4 → Fin 3 × Fin 3 × Fin 3 × Fin 3 := ![(0, 0, 1, 1), (0, 1, 0, 1), (0, 1, 1, 0), (0, 0, 0, 0)]
/-- the isotropic fourth moment at canonical rows `u` and columns `v`: `⟨R₀₀⁴⟩` when both are `iiii`, `⟨R₀₀²R₀₁²⟩` when
one is, else the entries of `M4`, `⟨R₀₀²R₁₁²⟩` for equal and `⟨R₀₀R₀₁R₁₀R₁₁⟩` for different pairings -/
def valq : Fin 4 → Fin 4 → ℚ := fun u v =>
  if u = 3 ∧ v = 3 then 1 / 5 else if u = 3 ∨ v = 3 then 1 / 15 else if u = v then 4 / 30 else -1 / 30

/-! `Pq n` acts from the left by index substitution (`Pq_mulMq`).  In the sum of a quartic monomial over `n = (s, e)`,
`sgnTab s` occurs to the fourth power and the `baseSign` factors sum over `e` to `signSum`: a sum over the six permutations
is left, with no matrix product.  From the right, the same on the transpose, which permutes the 24 (`sum_Pq_tr`). -/

/-- `4` if every index value occurs an even number of times, else `0` -/
def signSum (i j k l : Fin 3) : ℚ := ∑ e : Fin 4, baseSign e i * baseSign e j * baseSign e k * baseSign e l

theorem sgnTab_pm : ∀ s, sgnTab s = 1 ∨ sgnTab s = -1 := by decide

theorem sum_monq_Pq_mul (A : Mq) (i j k l a b c d : Fin 3) :
    ∑ n : Idx, monq (mulMq (Pq n) A) i j k l a b c d
      = signSum i j k l * ∑ s : Fin 6, monq A (permTab s i) (permTab s j) (permTab s k) (permTab s l) a b c d := by
  rw [Fintype.sum_prod_type, Finset.mul_sum]
  refine Finset.sum_congr rfl fun s _ => ?_
  rw [signSum, Finset.sum_mul]
  refine Finset.sum_congr rfl fun e _ => ?_
  simp only [monq, Pq_mulMq]
  rcases sgnTab_pm s with h | h <;> rw [h] <;> ring

theorem sum_monq_mul_Pq (A : Mq) (i j k l a b c d : Fin 3) :
    ∑ m : Idx, monq (mulMq A (Pq m)) i j k l a b c d
      = signSum a b c d * ∑ s : Fin 6, monq A i j k l (permTab s a) (permTab s b) (permTab s c) (permTab s d) := by
  refine Eq.trans ?_ ((sum_Pq_tr fun P => monq (mulMq P (trMq A)) a b c d i j k l).trans
    (sum_monq_Pq_mul (trMq A) a b c d i j k l))
  simp only [monq, mulMq_tr A]

/-- the sixteen numbers that determine the tensor -/
theorem t8q_canon : ∀ u v : Fin 4,
    t8q (canon u).1 (canon u).2.1 (canon u).2.2.1 (canon u).2.2.2 (canon v).1 (canon v).2.1 (canon v).2.2.1 (canon v).2.2.2 = valq u v := by
  intro u v
  -- the half turns summed out on both sides of `Q1q`: 24 + 36 monomials per entry are left to evaluate
  simp only [t8q, ← Finset.mul_sum, sum_monq_mul_Pq]
  rw [Finset.sum_comm]
  simp only [← Finset.mul_sum, sum_monq_Pq_mul]
  revert u v
  decide +kernel

end QV.C12
