import QV.Model.C10
import Mathlib.Algebra.BigOperators.Group.List.Basic
import Mathlib.Data.List.Nodup
import Mathlib.Analysis.SpecialFunctions.Exponential
import Mathlib.Analysis.Normed.Algebra.MatrixExponential

/-!
# C10 — vibronic structure follows the displaced-oscillator model
The vibrational index tuples of an electronic state are those of `numpy.ndindex`: every tuple below the declared level
counts, once.  Hamiltonian and dipole elements are the electronic quantity of C03 times the product of the single-mode
overlaps.  The shift operator is the exponential of an antisymmetric matrix, hence orthogonal.
-/
namespace QV.C10
open QV.C03

theorem mem_ndindex (dims v : List Nat) :
    v ∈ ndindex dims ↔ v.length = dims.length ∧ ∀ k : Nat, k < dims.length → v[k]?.getD 0 < dims[k]?.getD 0 := by
  fun_induction ndindex dims generalizing v with
  | case1 => simp
  | case2 d ds ih =>
    cases v with
    | nil => simp
    -- the condition at `k = 0` is on the head, at the successors it is the induction hypothesis for the tail
    | cons i w =>
      simp only [List.length_cons, Nat.forall_lt_succ_left]
      simp [ih, and_left_comm]

/-- **each electronic state carries as many vibronic states as the product of the declared level counts** -/
theorem ndindex_length (dims : List Nat) : (ndindex dims).length = dims.prod := by
  fun_induction ndindex dims <;> simp [*]

theorem ndindex_nodup (dims : List Nat) : (ndindex dims).Nodup := by
  fun_induction ndindex dims with
  | case1 => simp
  | case2 d ds ih =>
    rw [List.nodup_flatMap]
    refine ⟨fun i _ => ih.map List.cons_injective, List.nodup_range.imp fun hab x hxa hxb => ?_⟩
    -- an element of both lists would have both heads
    obtain ⟨w, -, rfl⟩ := List.mem_map.1 hxa
    simp [hab.symm] at hxb

theorem allStates_length (elsigs : List (List Nat)) (nmax : List Nat → List Nat) :
    (allStates elsigs nmax).length = (elsigs.map fun σ => (nmax σ).prod).sum := by
  simp [allStates, ndindex_length]

section
variable {α : Type} [CommRing α]

theorem foldl_mul_eq_prod (f : Nat → α) (l : List Nat) (a : α) :
    l.foldl (fun res k => res * f k) a = a * (l.map f).prod := by
  induction l generalizing a <;> simp [*, mul_assoc]

theorem fcFactor_is_product (fc : List Nat → List Nat → Nat → Nat → Nat → α) (s1 s2 : VState) :
    fcFactor fc s1 s2 =
      ((List.range s1.2.length).map fun k => fc s1.1 s2.1 k (s1.2[k]?.getD 0) (s2.2[k]?.getD 0)).prod := by
  rw [fcFactor, foldl_mul_eq_prod, one_mul]

/-- **coupling between vibronic states of two different one-exciton states = resonance coupling × product of overlaps** -/
theorem vibCoupling_product (nmono : Nat) (hm : 1 < nmono) (J : Nat → Nat → α)
    (fc : List Nat → List Nat → Nat → Nat → Nat → α) (idxOf : List Nat → Nat) (s1 s2 : VState) (k l : Nat)
    (h1 : band s1.1 = 1) (h2 : band s2.1 = 1) (hk : idxOf s1.1 = k + 1) (hl : idxOf s2.1 = l + 1) :
    vibCoupling nmono J fc idxOf s1 s2 = J k l * fcFactor fc s1 s2 := by
  rw [vibCoupling, if_pos hm, if_pos (h1.trans h2.symm), if_pos h1, hk, hl]
  exact if_pos ⟨Nat.le_add_left .., Nat.le_add_left ..⟩

/-- **dipole element = dipole of the molecule changing state × product of overlaps**, zero otherwise -/
theorem vibDipole_product (d : Nat → α) (fc : List Nat → List Nat → Nat → Nat → Nat → α) (s1 s2 : VState) :
    (∀ k, exIndex s1.1 s2.1 = some k → vibDipole d fc s1 s2 = d k * fcFactor fc s1 s2) ∧
    (exIndex s1.1 s2.1 = none → vibDipole d fc s1 s2 = 0) :=
  ⟨fun k hk => by rw [vibDipole, hk], fun hn => by rw [vibDipole, hn]⟩
end

/-- `p_n = e^{−S} Sⁿ / n!` sums to one for every Huang–Rhys factor `S` -/
theorem poisson_sums_to_one (S : ℝ) : HasSum (fun n : ℕ => Real.exp (-S) * S ^ n / n.factorial) 1 := by
  have h := (NormedSpace.expSeries_div_hasSum_exp (𝔸 := ℝ) S).mul_left (Real.exp (-S))
  rw [← Real.exp_eq_exp_ℝ, ← Real.exp_add, neg_add_cancel, Real.exp_zero] at h
  simpa only [mul_div_assoc] using h

section
open NormedSpace Matrix

/-- `(exp A)ᵀ = exp Aᵀ = exp (−A) = (exp A)⁻¹` -/
theorem exp_skew_orthogonal {n : Type} [Fintype n] [DecidableEq n] (A : Matrix n n ℝ) (h : Aᵀ = -A) :
    exp A * (exp A)ᵀ = 1 := by
  rw [← Matrix.exp_transpose, h, Matrix.exp_neg]
  exact Matrix.mul_nonsing_inv _ ((Matrix.isUnit_iff_isUnit_det _).mp (Matrix.isUnit_exp A))

/-- **`shift_operator(d)` exponentiates `(d·a† − d·a)/√2` with `a† = aᵀ` real — an antisymmetric matrix —
so the (untruncated, here: 100-level) overlap matrix is exactly orthogonal**, for every displacement and
every basis size; only the `[:20,:20]` cut of it is "orthogonal up to truncation" -/
theorem shift_operator_orthogonal {n : Type} [Fintype n] [DecidableEq n] (a : Matrix n n ℝ) (c : ℝ) :
    exp (c • (aᵀ - a)) * (exp (c • (aᵀ - a)))ᵀ = 1 := by
  apply exp_skew_orthogonal
  rw [Matrix.transpose_smul, Matrix.transpose_sub, Matrix.transpose_transpose, ← smul_neg, neg_sub]
end

example : ndindex [2, 3] = [[0, 0], [0, 1], [0, 2], [1, 0], [1, 1], [1, 2]] := by decide

end QV.C10
