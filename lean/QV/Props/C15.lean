import QV.Model.C15
import Mathlib.Algebra.Order.Field.Basic
import Mathlib.Data.Real.Basic
import Mathlib.Tactic.Ring
import Mathlib.Tactic.Linarith
import Mathlib.Tactic.SplitIfs

/-!
# C15 — propagation results are functions of their inputs only
On the history model `QV.C15`, whose call shapes are re-extracted from the source on every run (`QV.Gen.C15`): after
any two histories every call reads the same hidden values, because a tensor construction leaves an unprotected
Hamiltonian with all its couplings as it was and calls that store no refinement leave `Nref` alone.
-/
namespace QV.C15
open QV.Gen.C15

theorem absK_eq_abs (x : ℝ) : absK x = |x| := by
  unfold absK
  split_ifs with h
  · exact (abs_of_neg h).symm
  · exact (abs_of_nonneg (not_lt.mp h)).symm

/-- **`recover_cutoff_coupling` after `subtract_cutoff_coupling` gives every coupling back exactly**,
for every coupling value and every non-negative cut-off -/
theorem recover_subtract (c x : ℝ) (hc : 0 ≤ c) : recoverElem (subtractElem c x) = x := by
  unfold recoverElem subtractElem
  simp only [absK_eq_abs, abs_of_nonneg hc]
  split_ifs with h1 h2
  · exact zero_add x
  · linarith  -- |x| - c < 0 contradicts |x| > c
  · show x / |x| * (|x| - c) + x / |x| * c = x
    rw [← mul_add, sub_add_cancel, div_mul_cancel₀ x (hc.trans_lt (not_le.1 h1)).ne']

/-- nothing is over-subtracted: what `subtract_cutoff_coupling` keeps is no larger in absolute value than the coupling -/
theorem subtract_kept_small (c x : ℝ) (hc : 0 ≤ c) : |(subtractElem c x).1| ≤ |x| := by
  unfold subtractElem
  simp only [absK_eq_abs, abs_of_nonneg hc]
  split_ifs with h1 h2
  · simp
  · simp
  · show |x / |x| * (|x| - c)| ≤ |x|
    rw [abs_mul, abs_div, abs_abs, div_self (hc.trans_lt (not_le.1 h1)).ne', one_mul, abs_of_nonneg (not_lt.1 h2)]
    linarith

/-- `recover_cutoff_coupling` adds to the raw internal-units array (not through the units-managed property) -/
theorem recover_is_raw : recoverUsesRaw = true := by decide

def shift (d : Int) (h : Hidden) : Hidden := { h with depth := h.depth + d }

theorem bracket_shift (d : Int) (h : Hidden) (op : String) : bracket (shift d h) op = shift d (bracket h op) := by
  unfold bracket shift
  split <;> simp <;> ring

theorem foldl_bracket_shift (d : Int) (seq : List String) : ∀ h : Hidden,
    seq.foldl bracket (shift d h) = shift d (seq.foldl bracket h) :=
  fun _ => List.foldl_hom (shift d) (bracket_shift d)

theorem foldl_bracket_nref (seq : List String) : ∀ h : Hidden, (n : Nat) → (a : Bool) →
    seq.foldl bracket { h with nref := n, adoDirty := a } = { seq.foldl bracket h with nref := n, adoDirty := a } :=
  fun _ n a => List.foldl_hom (fun h : Hidden => { h with nref := n, adoDirty := a }) fun h op => by
    unfold bracket; split <;> rfl

theorem branches_balanced_clean : ∀ b ∈ branches, b.2.foldl bracket clean = clean := by decide

/-- **frame condition of tensor construction**: whatever the propagator refinement, the hierarchy and the
context depth are, a Hamiltonian that was not protected and had no couplings removed before the call is
in the same state after it, for every theory branch -/
theorem tensor_frame (b : Nat) (hb : b < branches.length) (h : Hidden) (hr : h.remainder = false) (hp : h.prot = false) :
    (exec h (.tensor b)).1 = h := by
  have key := branches_balanced_clean (branches.getD b ("", [])) (by simp [hb])
  -- a state with `remainder = prot = false` is `clean` moved to its depth with its own `nref`, `adoDirty` (`hh`);
  -- running a bracket sequence commutes with both changes (`foldl_bracket_nref`, `foldl_bracket_shift`), so the
  -- finite check on `clean` (`key`) decides every such state
  have hh : h = { shift h.depth clean with nref := h.nref, adoDirty := h.adoDirty } := by
    cases h
    simp_all [shift, clean]
  simp only [exec]
  conv_lhs => rw [hh]
  rw [foldl_bracket_nref, foldl_bracket_shift, key]
  exact hh.symm

theorem pure_frame (h : Hidden) (t : Nat) : exec h (.pure t) = (h, {}) := rfl

/-- **hierarchical equations**: the auxiliary operators are reset before they are read, so the result does
not depend on what the hierarchy was used for before -/
theorem heom_history_independent (h₁ h₂ : Hidden) : (exec h₁ .heom).2 = (exec h₂ .heom).2 := by
  have : heomResetsFirst = true := by decide
  simp [exec, this]

/-- a call that names its refinement does not depend on the stored one -/
theorem propagate_explicit_independent (k : Nat) (hk : 1 < k) (h₁ h₂ : Hidden) :
    (exec h₁ (.propagate k)).2 = (exec h₂ (.propagate k)).2 := by
  simp [exec, hk]

/-- calls that store no refinement on the propagator (`setRef` does, and so does a `propagate` that names one); for a
tensor construction, only that its branch number is in the extracted table -/
def Quiet : Call → Prop
  | .setRef _ => False
  | .propagate k => k ≤ 1
  | .tensor b => b < branches.length
  | _ => True

/-- the shared Hamiltonian is unprotected and has all its couplings in place: what every call relies on -/
def Settled (h : Hidden) : Prop := h.remainder = false ∧ h.prot = false

theorem exec_settled (h : Hidden) (c : Call) (hv : ∀ b, c = .tensor b → b < branches.length) (hs : Settled h) :
    Settled (exec h c).1 := by
  cases c with
  | tensor b => rwa [tensor_frame b (hv b rfl) h hs.1 hs.2]
  | _ => exact hs

theorem exec_quiet_nref (h : Hidden) (c : Call) (hq : Quiet c) (hs : Settled h) (hn : h.nref = 1) :
    (exec h c).1.nref = 1 := by
  cases c with
  | setRef k => exact hq.elim
  | propagate k =>
    simp only [exec, Nat.not_lt.2 hq, if_false, hn]
    split_ifs <;> rfl
  | tensor b => rwa [tensor_frame b hq h hs.1 hs.2]
  | _ => exact hn

theorem run_induction {P : Hidden → Prop} {Q : Call → Prop} (hstep : ∀ h c, Q c → P h → P (exec h c).1) :
    ∀ (hist : List Call) (h : Hidden), (∀ c ∈ hist, Q c) → P h → P (run h hist)
  | [], _, _, hp => hp
  | c :: rest, h, hq, hp =>
    run_induction hstep rest _ (fun d hd => hq d (List.mem_cons_of_mem _ hd)) (hstep h c (hq c List.mem_cons_self) hp)

theorem run_quiet (hist : List Call) : ∀ h : Hidden, (∀ c ∈ hist, Quiet c) → Settled h → h.nref = 1 →
    Settled (run h hist) ∧ (run h hist).nref = 1 := fun h hq hs hn =>
  run_induction (P := fun h => Settled h ∧ h.nref = 1)
    (fun h c hqc hp => ⟨exec_settled h c (fun b hb => by subst hb; exact hqc) hp.1, exec_quiet_nref h c hqc hp.1 hp.2⟩)
    hist h hq ⟨hs, hn⟩

/-- what a call reads: `remainder`, and the stored refinement unless the call is a propagation that names one -/
theorem exec_reads (h₁ h₂ : Hidden) (c : Call) (hr : h₁.remainder = h₂.remainder)
    (hn : h₁.nref = h₂.nref ∨ ∀ k, c = .propagate k → 1 < k) : (exec h₁ c).2 = (exec h₂ c).2 := by
  cases c with
  | propagate k =>
    rcases hn with hn | hn
    · simp only [exec, hn]
    · exact propagate_explicit_independent k (hn k rfl) _ _
  | heom => exact heom_history_independent _ _
  | tensor b => simp only [exec, hr]
  | _ => rfl

/-- **history independence**: after ANY two histories of tensor constructions, propagations (density matrix,
state vector, populations, hierarchy), and evolution-superoperator calculations that do not store a
refinement on the propagator, every call reads the same hidden values - its result is a function of its
explicit inputs only -/
theorem result_history_independent (hist₁ hist₂ : List Call) (h1 : ∀ c ∈ hist₁, Quiet c) (h2 : ∀ c ∈ hist₂, Quiet c)
    (c : Call) : (exec (run clean hist₁) c).2 = (exec (run clean hist₂) c).2 := by
  obtain ⟨s1, n1⟩ := run_quiet hist₁ clean h1 ⟨rfl, rfl⟩ rfl
  obtain ⟨s2, n2⟩ := run_quiet hist₂ clean h2 ⟨rfl, rfl⟩ rfl
  exact exec_reads _ _ c (s1.1.trans s2.1.symm) (Or.inl (n1.trans n2.symm))

theorem history_frame (hist : List Call) (h : ∀ c ∈ hist, Quiet c) : Settled (run clean hist) :=
  (run_quiet hist clean h ⟨rfl, rfl⟩ rfl).1

/-- with histories that DO store a refinement the only call whose result can change is the propagation that
does not name one: everything else still reads the same values -/
theorem result_independent_except_default_propagate (hist₁ hist₂ : List Call)
    (h1 : ∀ c ∈ hist₁, ∀ b, c = .tensor b → b < branches.length)
    (h2 : ∀ c ∈ hist₂, ∀ b, c = .tensor b → b < branches.length)
    (c : Call) (hc : ∀ k, c = .propagate k → 1 < k) :
    (exec (run clean hist₁) c).2 = (exec (run clean hist₂) c).2 := by
  have s1 := run_induction exec_settled hist₁ clean h1 ⟨rfl, rfl⟩
  have s2 := run_induction exec_settled hist₂ clean h2 ⟨rfl, rfl⟩
  exact exec_reads _ _ c (s1.1.trans s2.1.symm) (Or.inr hc)

/-- the recorded finding, formalised: as the source is written (`if Nref > 1: self.setDtRefinement(Nref)`),
a propagation that does not name a refinement depends on an earlier call that did -/
theorem default_propagate_depends_on_history (hs : stickyNref = true) :
    (exec (run clean [.propagate 4]) (.propagate 1)).2 ≠ (exec clean (.propagate 1)).2 := by
  simp [exec, run, hs, clean]

/-- the hypotheses above are satisfiable -/
example : (∀ c ∈ [Call.tensor 0, .propagate 1, .heom, .pure 0, .tensor 0], Quiet c) := by
  intro c hc
  simp only [List.mem_cons, List.mem_nil_iff, or_false] at hc
  rcases hc with rfl | rfl | rfl | rfl | rfl <;> simp [Quiet] <;> decide

end QV.C15
