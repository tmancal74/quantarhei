import QV.Props.C01

/-!
# C01 — trace and Hermiticity survive a change of basis
`RelaxationTensor.transform(SS, inv=S1)` (model `transformTwoPass`, the two passes as written, tied to the code by the
C01 driver) keeps a trace-free tensor trace free for EVERY inverse pair (no orthogonality needed): `sum_a R[a,a,c,d] = 0`
holds inside every basis context if it holds in the site basis.  Hermiticity needs real `SS` and `S1 = SSᵀ`
(orthogonality is not used).
-/
namespace QV.C01

section trace
variable {α : Type} [CommRing α] {n : Nat}

/-- the first pass followed by the trace over the first index pair: `tr(S1 X SS) = tr X` column by column -/
theorem first_pass_trace (S1 SS : Mat α n) (R : Tens α n) (hR : TraceFree R)
    (h : ∀ x y, ∑ a, S1 a x * SS y a = if x = y then 1 else 0) (c' d' : Fin n) :
    ∑ a, ∑ a', ∑ b', S1 a a' * R a' b' c' d' * SS b' a = 0 := by
  -- sum over `a` first: `h` collapses `b'` onto `a'`, what is left is `hR`
  rw [← Finset.sum_comm_cycle]
  simp only [mul_assoc, mul_left_comm (S1 _ _), ← Finset.mul_sum, h, mul_ite, mul_one, mul_zero, Fintype.sum_ite_eq]
  exact hR c' d'

/-- **a trace-free tensor is trace free in every basis** (any inverse pair `SS · S1 = 1`) -/
theorem transform_trace (S1 SS : Mat α n) (R : Tens α n) (hR : TraceFree R)
    (h : ∀ x y, ∑ a, S1 a x * SS y a = if x = y then 1 else 0) :
    TraceFree (transformTwoPass S1 SS R) := by
  intro c d
  simp only [transformTwoPass, sumFin_eq_sum]
  rw [← Finset.sum_comm_cycle]
  refine Finset.sum_eq_zero fun c' _ => Finset.sum_eq_zero fun d' _ => ?_
  -- the second pass multiplies the vanishing first-pass trace by `S1 c c'` and `SS d' d`
  rw [← Finset.sum_mul, ← Finset.mul_sum, first_pass_trace S1 SS R hR h, mul_zero, zero_mul]

/-- non-vacuity: the swap of two levels is its own inverse -/
example : ∀ x y : Fin 2, ∑ a : Fin 2, (if a.val + x.val = 1 then (1 : ℤ) else 0) * (if y.val + a.val = 1 then 1 else 0)
    = if x = y then 1 else 0 := by decide

end trace

section herm
variable {α : Type} [CommRing α] [StarRing α] {n : Nat}

/-- **a tensor that commutes with Hermitian conjugation does so in every basis** with real entries and `S1 = SSᵀ`
(what the package passes; orthogonality is not used) -/
theorem transform_herm (S1 SS : Mat α n) (R : Tens α n) (hR : HermPres R)
    (hreal : ∀ x y, star (SS x y) = SS x y) (hT : ∀ x y, S1 x y = SS y x) :
    HermPres (transformTwoPass S1 SS R) := by
  intro a b c d
  simp only [transformTwoPass, sumFin_eq_sum, star_sum, star_mul', hT, hreal, hR _ _ _ _]
  -- in both passes the two summation indices change places
  rw [Finset.sum_comm]
  refine Finset.sum_congr rfl fun x _ => Finset.sum_congr rfl fun y _ => ?_
  rw [Finset.sum_comm]
  simp only [Finset.mul_sum, Finset.sum_mul]
  exact Finset.sum_congr rfl fun _ _ => Finset.sum_congr rfl fun _ _ => by ring

end herm
end QV.C01
