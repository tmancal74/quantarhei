import QV.Model.C11
import QV.Lemmas.Bridge
import Mathlib.Algebra.BigOperators.Ring.Finset
import Mathlib.Tactic.Ring

/-!
# C11 — linear spectra match the Fourier integral and symmetry relations
`pipeline`, `sliceLo`, `sliceHi` are re-extracted from
`AbsSpectrumCalculator.one_transition_spectrum` on every run.
-/
namespace QV.C11
open QV.Gen.C11

theorem signed_emod (M x : Int) (hM : 0 < M) (h1 : -(M / 2) ≤ x) (h2 : 2 * x < M) :
    signed M (x % M) = x := by
  unfold signed
  rcases le_or_gt 0 x with hx | hx
  · rw [Int.emod_eq_of_lt hx (by omega), if_pos h2]
  · -- a negative index is stored `M` places up
    rw [← Int.add_emod_right, Int.emod_eq_of_lt (by omega) (by omega), if_neg (by omega), Int.add_sub_cancel]

/-- the calculators return exactly `Nt` samples -/
theorem sample_count (Nt : Int) : nSamples Nt = Nt := by
  unfold nSamples sliceHi sliceLo; ring

/-- the extracted `pipeline` read backwards from output position `sliceLo Nt + j`: `flipud` sends `p` to `M − 1 − p`,
`fftshift` to `(p − M/2) mod M` -/
theorem sampleK_eq (Nt j : Int) :
    sampleK Nt j = signed (hfftLen Nt) ((hfftLen Nt - 1 - (sliceLo Nt + j) - hfftLen Nt / 2) % hfftLen Nt) := rfl

/-- **index map of the spectrum**: sample `j` is the Fourier sum at the signed frequency index
`−(axisIndex Nt j + 2)` of the `2Nt−2`-point transform (the minus sign is the `flipud`: the sum is
`Σ a(t) e^{+iωt}`).  The returned axis, however, places the sample at index `axisIndex Nt j` of a `2Nt`-point
grid: every line is displaced by two grid points and the grid is stretched by `Nt/(Nt−1)` (recorded finding;
the transform itself is the exact Fourier sum).  `4 ≤ Nt` is not sharp: 3 would do, 2 would not. -/
theorem spectrum_index_map (Nt j : Int) (hN : 4 ≤ Nt) (hj0 : 0 ≤ j) (hj : j < Nt) :
    sampleK Nt j = -(axisIndex Nt j + 2) := by
  rw [sampleK_eq, hfftLen, sliceLo, axisIndex, Int.fdiv_eq_ediv_of_nonneg _ (by omega)]
  rw [show 2 * (Nt - 1) - 1 - (Nt / 2 + j) - 2 * (Nt - 1) / 2 = -(Nt / 2 + j - Nt + 2) by omega]
  exact signed_emod _ _ (by omega) (by omega) (by omega)  -- `0 < M`; the index is in the window, from below and from above

/-- the returned axis would be the right one only if the sample index were `−axisIndex`; it never is -/
theorem axis_displacement_witness (Nt j : Int) (hN : 4 ≤ Nt) (hj0 : 0 ≤ j) (hj : j < Nt) :
    sampleK Nt j ≠ -(axisIndex Nt j) := by
  rw [spectrum_index_map Nt j hN hj0 hj]; omega

section
variable {α : Type} [CommRing α]

theorem strength_scale (c : α) (d : Fin 3 → α) : strength (fun i => c * d i) = c ^ 2 * strength d := by
  simp only [strength, dot3, sumFin_eq_sum, Finset.mul_sum, mul_mul_mul_comm, sq]

/-- a common rotation of all dipoles leaves every scalar product (strengths and dipole–dipole
geometry factors) unchanged -/
theorem dot_rotate (Q : Fin 3 → Fin 3 → α) (hQ : ∀ i j, ∑ k, Q k i * Q k j = if i = j then 1 else 0)
    (a b : Fin 3 → α) : dot3 (rotate Q a) (rotate Q b) = dot3 a b := by
  simp only [dot3, rotate, matVec, sumFin_eq_sum]
  exact orth_dot Q hQ a b

theorem strength_rotate (Q : Fin 3 → Fin 3 → α) (hQ : ∀ i j, ∑ k, Q k i * Q k j = if i = j then 1 else 0)
    (d : Fin 3 → α) : strength (rotate Q d) = strength d := dot_rotate Q hQ d d

/-- **sum rule**: the exciton transformation (orthogonal `S`) conserves the total dipole strength,
whatever the couplings: `Σ_a |D_a|² = Σ_k |d_k|²` -/
theorem sum_rule {n : Nat} (S : Fin n → Fin n → α) (hS : ∀ k l, ∑ a, S k a * S l a = if k = l then 1 else 0)
    (d : Fin n → Fin 3 → α) : ∑ a, strength (excitonDipole S d a) = ∑ k, strength (d k) := by
  simp only [strength, dot3, excitonDipole, sumFin_eq_sum]
  rw [Finset.sum_comm]
  simp only [orth_dot (fun a k => S k a) hS]
  exact Finset.sum_comm
end

/-- non-vacuity: eight time points -/
example : (List.range 8).map (fun (j : Nat) => sampleK 8 j) = [2, 1, 0, -1, -2, -3, -4, -5] := by decide

end QV.C11
