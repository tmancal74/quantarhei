import QV.Lemmas.Operators
import QV.Props.C01

/-!
# C07 — operator form, tensor form and exact limits of a tensor agree
The operator form of one bath component is the action of its `_loopit` tensor, for any four operators; summed over the
components the generators of the two propagation loops coincide, hence so do the stored states.
-/
namespace QV.Prop
open QV.C01 Finset

variable {n : Nat}

section ring
variable {α : Type} [CommRing α]

/-- **operator form ≡ tensor form on every operator** (one component, any `K, Kd, L, Ld`):
`K ρ Ld + L ρ Kd − Kd L ρ − ρ Ld K = Σ_cd R_abcd ρ_cd` with `R` the `_loopit` element formula -/
theorem applyOps_eq_apply (K Kd L Ld ρ : Mat α n) :
    applyOps K Kd L Ld ρ = apply (loopTerm K Kd L Ld) ρ := by
  funext a b
  -- both sides become double sums of products with `ρ` as last factor; the `δ`s of `loopTerm` pick `ρ_cb` and `ρ_ad`
  simp only [applyOps, apply, tensApply, loopTerm, matMul, sumFin_eq_sum, mul_sum, sub_mul, add_mul,
    sum_sub_distrib, sum_add_distrib, ite_mul, zero_mul, sum_ite_irrel, sum_const_zero, Fintype.sum_ite_eq, mul_assoc,
    mul_comm (ρ _ _)]

theorem genOps_eq_genTensor (ii : α) (H : Mat α n) (comps : List (Mat α n × Mat α n × Mat α n)) (c : α)
    (ρ : MatD α n n) : genOps ii H comps c ρ = genTensor ii H (redfieldTensor comps) c ρ := by
  unfold genOps genTensor redfieldTensor
  congr 1; funext a b
  -- the running sum of the operator form is the Hamiltonian term plus the action of the running tensor
  refine List.foldl_rel (r := fun x R => x = -(ii * c * comm H ρ.fn a b) + c * tensApply R ρ.fn a b) ?_ ?_
  · rw [tensApply_zero, mul_zero, add_zero]
  · rintro k _ _ R rfl
    rw [applyOps_eq_apply, apply, tensApply_add, mul_add, add_assoc]

end ring

/-- **hence operator-form and tensor-form propagation store identical states** -/
theorem propagate_ops_eq_tensor {α : Type} [Field α] (ii : α) (H : Mat α n)
    (comps : List (Mat α n × Mat α n × Mat α n)) (dt : α) (L Nref nt : Nat) (ρ0 : MatD α n n) :
    rdmPropagate (genOps ii H comps) dt L Nref nt ρ0
      = rdmPropagate (genTensor ii H (redfieldTensor comps)) dt L Nref nt ρ0 :=
  congrArg (rdmPropagate · dt L Nref nt ρ0) (funext₂ (genOps_eq_genTensor ii H comps))

end QV.Prop
