import QV.Props.C13Linear
import Mathlib.RingTheory.RootsOfUnity.PrimitiveRoots
import Mathlib.Algebra.Field.GeomSum
import Mathlib.RingTheory.RootsOfUnity.Complex

/-!
# C13 — the inverse transform undoes the transform (complete axes, every length)
`ζ` is a primitive `n`-th root of unity in a field (standing for `e^{−2πi/n}`); the two step factors satisfy
`dt · c · n = 1` (`c = dω/2π = 1/(n·dt)`).  The plain Fourier sum inverts by orthogonality of the powers of `ζ`, and the
two shifts around it undo each other.  The upper-half transform is the complete one of the centred Hermitian extension,
so its inversion is a corollary.
-/
namespace QV.C13

variable {K : Type} [Field K]

theorem npow_eq_pow (z : K) (k : Nat) : npow z k = z ^ k := by
  fun_induction npow z k <;> simp [*, pow_succ]

/-- `x = 1` is a hypothesis: `dft_dft_inv` applies both cases to the one expression `ζ^k · ζ⁻¹^m` -/
theorem sum_pow_root_one {n : Nat} (x : K) (hx1 : x = 1) : (∑ a : Fin n, x ^ a.val) = (n : K) := by
  simp only [hx1, one_pow, Fin.sum_const, nsmul_eq_mul, mul_one]

theorem sum_pow_root_ne {n : Nat} (x : K) (hx : x ^ n = 1) (h1 : x ≠ 1) : (∑ a : Fin n, x ^ a.val) = 0 := by
  rw [Fin.sum_univ_eq_sum_range (fun a => x ^ a) n, geom_sum_eq h1, hx, sub_self, zero_div]

theorem sum_shift {n : Nat} (hn : 0 < n) (s : Nat) (f : Nat → K) (hf : ∀ a, f (a % n) = f a) :
    (∑ j : Fin n, f (j.val + s)) = ∑ a : Fin n, f a.val :=
  Fintype.sum_bijective _ (shift_bijective hn s) _ _ fun j => (hf (j.val + s)).symm

theorem dft_dft_inv {n : Nat} (hn : 0 < n) (ζ : K) (hζ : IsPrimitiveRoot ζ n) (x : Fin n → K) (k : Fin n) :
    dft ζ (dft ζ⁻¹ x) k = n * x k := by
  have hζn : ζ ^ n = 1 := hζ.pow_eq_one
  have hζ0 : ζ ≠ 0 := hζ.ne_zero hn.ne'
  have hin : ζ⁻¹ ^ n = 1 := hζ.inv.pow_eq_one
  simp only [dft, sumFin_eq_sum, npow_eq_pow, ← pow_eq_pow_mod _ hζn, ← pow_eq_pow_mod _ hin]
  -- exchange the sums: the inner one is then a geometric sum in `ζ^k / ζ^m`, which is `n` for `m = k` and `0` otherwise
  calc ∑ j : Fin n, (∑ m : Fin n, x m * ζ⁻¹ ^ (j.val * m.val)) * ζ ^ (k.val * j.val)
      = ∑ m : Fin n, x m * ∑ j : Fin n, (ζ ^ k.val * ζ⁻¹ ^ m.val) ^ j.val := by
        simp only [Finset.sum_mul, Finset.mul_sum]
        rw [Finset.sum_comm]
        exact Finset.sum_congr rfl fun m _ => Finset.sum_congr rfl fun j _ => by ring
    _ = n * x k := by
        refine (Fintype.sum_eq_single k fun m hmk => ?_).trans ?_
        · rw [sum_pow_root_ne _ (by rw [mul_pow, pow_right_comm, pow_right_comm ζ⁻¹, hζn, hin, one_pow, one_pow,
            mul_one]) fun h1 => hmk ?_, mul_zero]
          rw [inv_pow, mul_inv_eq_one₀ (pow_ne_zero _ hζ0)] at h1
          exact Fin.ext (hζ.pow_inj m.isLt k.isLt h1.symm)
        · rw [sum_pow_root_one _ (by rw [inv_pow, mul_inv_cancel₀ (pow_ne_zero _ hζ0)]), mul_comm]

theorem shift_back (n h j : Nat) (hh : h < n) (hj : j < n) : ((j + h) % n + n - h) % n = j := by
  rw [Nat.add_sub_assoc hh.le]
  exact shift_shift (Nat.add_sub_cancel' hh.le) hj

theorem ifftshift_fftshift {β : Type} {n : Nat} (hn : 0 < n) (x : Fin n → β) : ifftshift (fftshift x) = x := by
  funext j
  rw [ifftshift_apply hn, fftshift_apply hn]
  exact congrArg x (Fin.ext (shift_shift (Nat.add_sub_cancel' (Nat.div_le_self n 2)) j.isLt))

theorem fftshift_ifftshift {β : Type} {n : Nat} (hn : 0 < n) (x : Fin n → β) : fftshift (ifftshift x) = x := by
  funext j
  rw [fftshift_apply hn, ifftshift_apply hn]
  exact congrArg x (Fin.ext (shift_shift (Nat.sub_add_cancel (Nat.div_le_self n 2)) j.isLt))

/-- **inverse ∘ forward = identity on complete axes**, every length, every data -/
theorem iftComplete_ftComplete {n : Nat} (hn : 0 < n) (ζ : K) (hζ : IsPrimitiveRoot ζ n) (dt c : K)
    (hc : dt * c * (n : K) = 1) (y : Fin n → K) (k : Fin n) :
    iftComplete ζ c (ftComplete ζ⁻¹ dt y) k = y k := by
  -- the factor `dt` goes through the shift (by definition), the inner pair of shifts cancels, `dft` is linear and
  -- inverts; what is left is `fftshift (ifftshift y)`
  show fftshift (dft ζ (ifftshift (fftshift fun j => dft ζ⁻¹ (ifftshift y) j * dt))) k * c = _
  rw [ifftshift_fftshift hn, ← congrFun (fftshift_ifftshift hn y) k]
  simp only [mul_comm _ dt, funext (dft_smul ζ dt _), fftshift_apply hn, dft_dft_inv hn ζ hζ]
  rw [mul_right_comm, ← mul_assoc, hc, one_mul]

/-- **the other order** (`get_Fourier_transform` of `get_inverse_Fourier_transform`): the two directions are the same
index map with conjugate roots -/
theorem ftComplete_iftComplete {n : Nat} (hn : 0 < n) (ζ : K) (hζ : IsPrimitiveRoot ζ n) (dt c : K)
    (hc : dt * c * (n : K) = 1) (y : Fin n → K) (k : Fin n) :
    ftComplete ζ⁻¹ dt (iftComplete ζ c y) k = y k := by
  have h := iftComplete_ftComplete hn ζ⁻¹ hζ.inv c dt (by rw [← hc]; ring) y k
  rwa [inv_inv] at h

theorem ftUpper_eq_ftComplete {N : Nat} (hN : 0 < N) (conj : K → K) (ζi dt : K) (y : Fin N → K) :
    ftUpper conj ζi dt y = ftComplete ζi dt (fftshift (hermExt conj y)) := by
  unfold ftUpper ftComplete
  rw [ifftshift_fftshift (by omega)]

/-- **transform, then inverse transform, on upper-half axes gives the function back**: every number `N` of time points,
every data (the first value need not be real), whatever conjugation fills the lower half -/
theorem iftUpper_ftUpper {N : Nat} (hN : 0 < N) (conj : K → K) (ζ : K) (hζ : IsPrimitiveRoot ζ (2 * N)) (dt c : K)
    (hc : dt * c * ((2 * N : Nat) : K) = 1) (y : Fin N → K) (k : Fin N) :
    iftUpper ζ c (ftUpper conj ζ⁻¹ dt y) k = y k := by
  unfold iftUpper
  -- position `N + k` of the shifted extension is position `k` of the extension
  rw [ftUpper_eq_ftComplete hN, iftComplete_ftComplete (Nat.mul_pos two_pos hN) ζ hζ dt c hc,
    fftshift_add_half _ _ k.isLt]
  exact dif_pos k.isLt

/-- the hypothesis is satisfiable for every length: over ℂ the number `e^{2πi/n}` is a primitive `n`-th root -/
example (n : ℕ) (hn : n ≠ 0) : ∃ ζ : ℂ, IsPrimitiveRoot ζ n := ⟨_, Complex.isPrimitiveRoot_exp n hn⟩

end QV.C13
