import QV.Props.C04Labels
import Mathlib.Algebra.Group.Basic
import Mathlib.Algebra.BigOperators.Group.List.Basic
import Mathlib.LinearAlgebra.Matrix.Trace

/-!
# C04 — basis-change contexts are transparent and self-restoring
The model of `QV.Model.C04` is instantiated at an arbitrary group `G` of basis transformations acting from the right
on representations `R` (`act (g*h) r = act h (act g r)`, i.e. `r ↦ g⁻¹ r g`), which covers operators, density matrices
and — with the induced action — tensors and superoperators for exactly invertible transformations.
-/
namespace QV.C04

variable {G R : Type} [Group G] (act : G → R → R)

def grpAlg : Alg G R := { mul := (· * ·), inv := (·⁻¹), one := 1, act := act }

structure IsAction : Prop where
  one : ∀ r, act 1 r = r
  mul : ∀ g h r, act (g * h) r = act h (act g r)

/-- total transformation from the basis outside all contexts to the innermost one -/
def Gfull (levels : List G) : G := levels.reverse.prod
/-- total transformation from the basis outside all contexts to the basis with id `b` (0 = outside) -/
def Gto (levels : List G) (b : Nat) : G := Gfull (levels.drop (levels.length - b))

theorem Gfull_append (l₁ l₂ : List G) : Gfull (l₁ ++ l₂) = Gfull l₂ * Gfull l₁ := by
  simp [Gfull]

theorem Gfull_cons (S : G) (levels : List G) : Gfull (S :: levels) = Gfull levels * S := by
  simp [Gfull]

theorem Gto_full (levels : List G) : Gto levels levels.length = Gfull levels := by simp [Gto]
theorem Gto_zero (levels : List G) : Gto levels 0 = 1 := by simp [Gto, Gfull]

theorem Gto_cons (S : G) (levels : List G) (b : Nat) (hb : b ≤ levels.length) :
    Gto (S :: levels) b = Gto levels b := by
  rw [Gto, Gto, List.length_cons, Nat.succ_sub hb, List.drop_succ_cons]

theorem scrollBack_eq (k : Nat) (levels : List G) : scrollBack (grpAlg act) k levels = Gfull (levels.take k) := by
  fun_induction scrollBack (grpAlg act) k levels <;> simp_all [grpAlg, Gfull]

/-- the scroll-back product is the missing factor -/
theorem scrollBack_spec (levels : List G) (k : Nat) (hk : k ≤ levels.length) :
    Gfull (levels.drop k) * scrollBack (grpAlg act) k levels = Gfull levels := by
  rw [scrollBack_eq, ← Gfull_append, List.take_append_drop]

/-- per-object invariant relative to its representation `orig` in the outermost basis: unprotected, the bookkeeping
invariant `LabelInv` of `Props/C04Labels.lean`, and the value `rep`; only the last is at stake below -/
structure ObjInv (levels : List G) (o : Obj R) (orig : R) : Prop where
  unprot : o.prot = false
  le : o.basis ≤ levels.length
  rep : o.rep = act (Gto levels o.basis) orig
  reg : o.basis ≠ 0 → o.basis ∈ o.regs
  regs : ∀ l ∈ o.regs, 1 ≤ l ∧ l ≤ o.basis

variable {act}

theorem ObjInv.label {levels : List G} {o : Obj R} {orig : R} (h : ObjInv act levels o orig) :
    LabelInv levels.length o :=
  ⟨h.le, h.reg, h.regs⟩

theorem ObjInv.of_label {levels : List G} {o : Obj R} {orig : R} (hp : o.prot = false)
    (hl : LabelInv levels.length o) (hr : o.rep = act (Gto levels o.basis) orig) : ObjInv act levels o orig :=
  ⟨hp, hl.le, hr, hl.reg, hl.regs⟩

/-- **reading presents the object in the current basis** and keeps the invariant -/
theorem toCurrent_inv (ha : IsAction act) (s : BState G R) (o : Obj R) (orig : R)
    (h : ObjInv act s.levels o orig) :
    ObjInv act s.levels (toCurrent (grpAlg act) s o) orig ∧
    (toCurrent (grpAlg act) s o).basis = s.levels.length ∧
    (toCurrent (grpAlg act) s o).rep = act (Gfull s.levels) orig := by
  -- the label half, from `C04Labels`; reverted so that the case split rewrites inside it too
  have hl := toCurrent_label (A := grpAlg act) s o h.label
  revert hl
  fun_cases toCurrent (grpAlg act) s o
  · next hp => exact absurd hp (h.unprot ▸ Bool.false_ne_true)
  · next hb => exact fun _ => ⟨h, hb, by rw [h.rep, hb, depth, Gto_full]⟩
  · intro hl
    have hrep : act (scrollBack (grpAlg act) (s.levels.length - o.basis) s.levels) o.rep
        = act (Gfull s.levels) orig := by
      rw [h.rep, ← ha.mul, Gto, scrollBack_spec act _ _ (Nat.sub_le _ _)]
    exact ⟨.of_label h.unprot hl (Gto_full s.levels ▸ hrep), rfl, hrep⟩

theorem act_inv_Gfull_cons (ha : IsAction act) (S : G) (rest : List G) (orig : R) :
    act S⁻¹ (act (Gfull (S :: rest)) orig) = act (Gfull rest) orig := by
  rw [← ha.mul, Gfull_cons, mul_inv_cancel_right]

/-- **leaving a context brings every object registered with it back by exactly one level** -/
theorem exitObj_inv (ha : IsAction act) (S : G) (rest : List G) (o : Obj R) (orig : R)
    (h : ObjInv act (S :: rest) o orig) :
    ObjInv act rest (exitObj (grpAlg act) S (rest.length + 1) o) orig := by
  have hl := exitObj_label (A := grpAlg act) S rest.length o h.label
  revert hl
  fun_cases exitObj (grpAlg act) S (rest.length + 1) o
  · next hm =>
    have hb : o.basis = (S :: rest).length := Nat.le_antisymm h.le (h.regs _ hm).2
    exact fun hl => .of_label h.unprot hl (by
      simp only [grpAlg, h.unprot, h.rep, hb, Nat.add_sub_cancel, Gto_full, Bool.false_eq_true, ↓reduceIte,
        act_inv_Gfull_cons ha])
  · exact fun hl => .of_label h.unprot hl (by rw [h.rep, Gto_cons S rest _ hl.le])

/-- entering a further context does not disturb any object -/
theorem push_inv (S : G) (levels : List G) (o : Obj R) (orig : R) (h : ObjInv act levels o orig) :
    ObjInv act (S :: levels) o orig :=
  { h with le := Nat.le_succ_of_le h.le, rep := by rw [h.rep, Gto_cons S levels _ h.le] }

/-- a new (or overwritten) value given in the current basis: its representation outside all contexts -/
def origOf (levels : List G) (r : R) : R := act (Gfull levels)⁻¹ r

theorem act_origOf (ha : IsAction act) (levels : List G) (r : R) :
    act (Gfull levels) (origOf (act := act) levels r) = r := by
  rw [origOf, ← ha.mul, inv_mul_cancel, ha.one]

theorem fresh_inv (ha : IsAction act) (levels : List G) (r : R) :
    ObjInv act levels { rep := r, basis := levels.length, prot := false,
                        regs := if levels.length = 0 then [] else [levels.length] }
      (origOf (act := act) levels r) :=
  .of_label rfl (fresh_label _ r) (by rw [Gto_full, act_origOf ha])

/-- **when all contexts have been left an object is in its original representation, labelled
with the outermost basis and registered nowhere** -/
theorem restored_at_depth_zero (ha : IsAction act) (o : Obj R) (orig : R) (h : ObjInv act ([] : List G) o orig) :
    o.rep = orig ∧ o.basis = 0 ∧ o.regs = [] := by
  obtain ⟨hb, hr⟩ := h.label.zero
  exact ⟨by rw [h.rep, hb, Gto_zero, ha.one], hb, hr⟩

/-- labelled 0 and registered nowhere, an object fits under any stack: loading (`Props/C18.lean`) -/
theorem ObjInv.of_outermost (ha : IsAction act) {o : Obj R} {orig : R} (hp : o.prot = false) (hb : o.basis = 0)
    (hr : o.regs = []) (hrep : o.rep = orig) (levels : List G) : ObjInv act levels o orig :=
  ⟨hp, hb ▸ Nat.zero_le _, by rw [hrep, hb, Gto_zero, ha.one], fun hne => absurd hb hne, fun l hl => by simp [hr] at hl⟩

/-- the invariant for every managed object, with the ghost map `orig` -/
def StateInv (s : BState G R) (orig : Nat → R) : Prop :=
  ∀ id o, getObj s id = some o → ObjInv act s.levels o (orig id)

theorem lookup_filter_ne {β : Type} (l : List (Nat × β)) (id id' : Nat) (h : id' ≠ id) :
    (l.filter (fun p => p.1 != id)).lookup id' = l.lookup id' :=
  lookup_filter_neA l id id' h

theorem getObj_setObj (s : BState G R) (id id' : Nat) (o : Obj R) :
    getObj (setObj s id o) id' = if id' = id then some o else getObj s id' :=
  getObj_setObjA s id id' o

theorem setObj_inv (s : BState G R) (orig : Nat → R) (h : StateInv (act := act) s orig) (i : Nat) (o : Obj R) (r : R)
    (ho : ObjInv act s.levels o r) : StateInv (act := act) (setObj s i o) (Function.update orig i r) := by
  intro id o' hg
  rw [getObj_setObjA] at hg
  rw [Function.update_apply]
  split_ifs at hg ⊢
  · exact Option.some.inj hg ▸ ho
  · exact h id o' hg

theorem read_inv (ha : IsAction act) (s : BState G R) (orig : Nat → R) (h : StateInv (act := act) s orig) (id : Nat) :
    StateInv (act := act) (read (grpAlg act) s id).1 orig ∧ (read (grpAlg act) s id).1.levels = s.levels ∧
    (∀ o, getObj s id = some o → (read (grpAlg act) s id).2 = some (act (Gfull s.levels) (orig id))) := by
  unfold read
  cases ho : getObj s id with
  | none => exact ⟨h, rfl, nofun⟩
  | some o =>
    obtain ⟨i1, _, i3⟩ := toCurrent_inv ha s o (orig id) (h id o ho)
    exact ⟨Function.update_eq_self id orig ▸ setObj_inv s orig h id _ _ i1, rfl, fun _ _ => congrArg some i3⟩

theorem step_inv (ha : IsAction act) (s : BState G R) (orig : Nat → R) (h : StateInv (act := act) s orig)
    (op : Op G R) : ∃ orig', StateInv (act := act) (step (grpAlg act) s op) orig' ∧
      (∀ j, (∀ r, op ≠ .create j r) → (∀ r, op ≠ .write j r) → orig' j = orig j) := by
  cases op with
  | read i => exact ⟨orig, (read_inv ha s orig h i).1, fun _ _ _ => rfl⟩
  | enter i S =>
    exact ⟨orig, fun id o hg => push_inv S _ o (orig id) ((read_inv ha s orig h i).1 id o hg), fun _ _ _ => rfl⟩
  | exit =>
    exact ⟨orig, exit_preserves (P := fun l id o => ObjInv act l o (orig id)) (fun S rest id o => exitObj_inv ha S rest o _) s h,
      fun _ _ _ => rfl⟩
  | create i r =>
    exact ⟨_, setObj_inv s orig h i _ _ (fresh_inv ha s.levels r),
      fun j hc _ => Function.update_of_ne (fun e => hc r (by rw [e])) _ _⟩
  | write i r =>
    show ∃ orig', StateInv (write (grpAlg act) s i r) orig' ∧ _
    fun_cases write (grpAlg act) s i r
    · exact ⟨orig, h, fun _ _ _ => rfl⟩
    · next o ho =>
      obtain ⟨i1, i2, _⟩ := toCurrent_inv ha s o (orig i) (h i o ho)
      -- the overwritten object has a new value and a new original; only the field `rep` mentions either, the other
      -- fields of `i1` are those of the object read
      exact ⟨_, setObj_inv s orig h i _ (origOf (act := act) s.levels r)
          { i1 with rep := by simp only [i2, Gto_full, act_origOf ha] },
        fun j _ hw => Function.update_of_ne (fun e => hw r (by rw [e])) _ _⟩

/-- **C04 main theorem.** After *any* program of entering and leaving (nested) contexts, creating,
reading and writing managed objects — leaving through an exception is the same `exit` — the
invariant holds, for a ghost map `orig'` that agrees with `orig` on every object the program neither
creates nor writes.  So whenever all contexts have been left again such an object is in the
representation `orig id` it started from, and every object carries the outermost basis label and is
registered nowhere (`restored_at_depth_zero`). -/
theorem restore (ha : IsAction act) (ops : List (Op G R)) (s : BState G R) (orig : Nat → R)
    (h : StateInv (act := act) s orig) :
    ∃ orig', StateInv (act := act) (run (grpAlg act) s ops) orig' ∧
      (∀ j, (∀ r, Op.create j r ∉ ops) → (∀ r, Op.write j r ∉ ops) → orig' j = orig j) := by
  induction ops generalizing s orig with
  | nil => exact ⟨orig, h, fun _ _ _ => rfl⟩
  | cons op rest ih =>
    obtain ⟨o1, h1, k1⟩ := step_inv ha s orig h op
    obtain ⟨o2, h2, k2⟩ := ih (step (grpAlg act) s op) o1 h1
    exact ⟨o2, h2, fun j hc hw =>
      (k2 j (fun r => List.not_mem_of_not_mem_cons (hc r)) fun r => List.not_mem_of_not_mem_cons (hw r)).trans
        (k1 j (fun r => (List.ne_of_not_mem_cons (hc r)).symm) fun r => (List.ne_of_not_mem_cons (hw r)).symm)⟩

/-- from the empty manager state.  The clause `o.rep = orig' id` holds for SOME ghost map, which the statement does not
tie to the values the program created or wrote; which value an object has is said by `restore` (frame clause) and
`read_inv`. -/
theorem restore_from_empty [Inhabited R] (ha : IsAction act) (ops : List (Op G R))
    (hd : (run (grpAlg act) (empty : BState G R) ops).levels = []) :
    ∃ orig' : Nat → R, ∀ id o, getObj (run (grpAlg act) (empty : BState G R) ops) id = some o →
      o.rep = orig' id ∧ o.basis = 0 ∧ o.regs = [] := by
  obtain ⟨o', h', _⟩ := restore ha ops empty (fun _ => default) (fun _ _ hg => nomatch hg)
  exact ⟨o', fun id o hg => restored_at_depth_zero ha o (o' id) (hd ▸ h' id o hg)⟩

section
variable {n : Type} [Fintype n] [DecidableEq n] {K : Type} [CommRing K]

/-- `Operator.transform`: `S⁻¹ · data · S` for an invertible transformation matrix -/
def conjAct (S : (Matrix n n K)ˣ) (r : Matrix n n K) : Matrix n n K :=
  ((S⁻¹ : (Matrix n n K)ˣ) : Matrix n n K) * r * (S : Matrix n n K)

/-- non-vacuity of `restore`: conjugation is an action in the required sense -/
theorem conjAct_isAction : IsAction (conjAct (n := n) (K := K)) where
  one := by intro r; simp [conjAct]
  mul := by
    intro g h r
    simp only [conjAct, mul_inv_rev, Units.val_mul, mul_assoc]

theorem trace_invariant (S : (Matrix n n K)ˣ) (r : Matrix n n K) :
    Matrix.trace (conjAct S r) = Matrix.trace r := by
  rw [conjAct, Matrix.trace_mul_cycle, Units.mul_inv, one_mul]

/-- products of objects presented in the same basis transform as objects: `tr(Aρ)`, the action of
an operator on a state, powers … are the same inside and outside -/
theorem mul_covariant (S : (Matrix n n K)ˣ) (a b : Matrix n n K) :
    conjAct S a * conjAct S b = conjAct S (a * b) := by
  simp only [conjAct, mul_assoc, Units.mul_inv_cancel_left]

theorem trace_mul_invariant (S : (Matrix n n K)ˣ) (a b : Matrix n n K) :
    Matrix.trace (conjAct S a * conjAct S b) = Matrix.trace (a * b) := by
  rw [mul_covariant, trace_invariant]
end

end QV.C04
