import QV.Props.C17
import Mathlib.Data.Nat.Choose.Sum
import Mathlib.Data.Nat.Choose.Cast
import Mathlib.Data.Real.Basic
import Mathlib.Algebra.Module.BigOperators
import Mathlib.Data.Matrix.Basic
import Mathlib.Tactic.Positivity

/-!
# C17 — populations stay non-negative, for every expansion order
The step is multiplication by `Etr L (dt·K) = Σ_{k≤L} (dt·K)^k/k!`.  With `s` a bound on the depopulation rates
(`−K_jj ≤ s`) and `x = dt·s`, the matrix `A = dt·K + x·1` is entrywise non-negative, that polynomial equals
`Σ_m (e_{L−m}(−x)/m!) · A^m` with `e_j(t) = etr j t = Σ_{i≤j} t^i/i!` (binomial regrouping), and `e_j(−x) ≥ 0` for
`0 ≤ x ≤ 1` (alternating sum of decreasing terms).
-/
namespace QV.C17
open Finset Matrix

section algebra
variable {R : Type} [Ring R] [Algebra ℝ R]

theorem binom_scaled (a : R) (t : ℝ) (n : ℕ) :
    ((n.factorial : ℝ)⁻¹) • (a + t • (1 : R)) ^ n
      = ∑ m ∈ range (n + 1), ((m.factorial : ℝ)⁻¹ * (t ^ (n - m) / (n - m).factorial)) • a ^ m := by
  rw [((Commute.one_right a).smul_right t).add_pow, Finset.smul_sum]
  refine Finset.sum_congr rfl fun m hm => ?_
  -- the term `a^m (t•1)^(n−m) C(n,m)` is a real multiple of `a^m` …
  rw [smul_pow, one_pow, mul_smul_comm, mul_one, ← nsmul_eq_mul', ← Nat.cast_smul_eq_nsmul ℝ, smul_smul, smul_smul]
  -- … with the coefficient `t^(n−m) C(n,m)/n! = t^(n−m)/(m! (n−m)!)`
  rw [Nat.cast_choose ℝ (mem_range_succ_iff.mp hm), ← mul_div_assoc, inv_mul_cancel₀ (by positivity), one_div, mul_inv,
    mul_assoc, div_eq_inv_mul]

/-- `taylorPoly (L + 1)` of `Lemmas/TruncBound` with real scalars -/
noncomputable def Etr (L : ℕ) (y : R) : R := ∑ k ∈ range (L + 1), ((k.factorial : ℝ)⁻¹) • y ^ k
noncomputable def etr (L : ℕ) (t : ℝ) : ℝ := ∑ k ∈ range (L + 1), t ^ k / k.factorial

theorem etr_succ (L : ℕ) (t : ℝ) : etr (L + 1) t = etr L t + t ^ (L + 1) / (L + 1).factorial := by
  unfold etr; rw [Finset.sum_range_succ]

theorem Etr_shift (a : R) (t : ℝ) (L : ℕ) :
    Etr L (a + t • (1 : R)) = ∑ m ∈ range (L + 1), ((m.factorial : ℝ)⁻¹ * etr (L - m) t) • a ^ m := by
  -- every term regrouped by `binom_scaled`, then the triangle `m ≤ k ≤ L` summed over `k` first
  simp only [Etr, binom_scaled]
  rw [sum_range_diag_flip (L + 1) fun m j => ((m.factorial : ℝ)⁻¹ * (t ^ j / j.factorial)) • a ^ m]
  refine sum_congr rfl fun m hm => ?_
  rw [etr, mul_sum, sum_smul, Nat.succ_sub (mem_range_succ_iff.mp hm)]
end algebra

theorem etr_term_le (x : ℝ) (h0 : 0 ≤ x) (h1 : x ≤ 1) (k : ℕ) :
    x ^ (k + 1) / (k + 1).factorial ≤ x ^ k / k.factorial := by
  rw [pow_succ', Nat.factorial_succ, Nat.cast_mul, mul_div_mul_comm]
  exact mul_le_of_le_one_left (by positivity) (div_le_one_of_le₀ (h1.trans (by simp)) (by positivity))

/-- the partial sums of an alternating series with decreasing terms are non-negative, the even ones at least their last
term -/
theorem etr_neg_bounds (x : ℝ) (h0 : 0 ≤ x) (h1 : x ≤ 1) (j : ℕ) :
    0 ≤ etr j (-x) ∧ (Even j → x ^ j / j.factorial ≤ etr j (-x)) := by
  induction j with
  | zero => simp [etr]
  | succ j ih =>
    rw [etr_succ, Nat.even_add_one]
    rcases Nat.even_or_odd j with hj | hj
    · -- `j` even: at most `x^j/j!` is subtracted (`etr_term_le`), the even lower bound
      rw [hj.add_one.neg_pow, neg_div]
      exact ⟨by linarith [ih.2 hj, etr_term_le x h0 h1 j], absurd hj⟩
    · -- `j` odd: the term added is the new lower bound
      rw [hj.add_one.neg_pow]
      exact ⟨add_nonneg ih.1 (by positivity), fun _ => le_add_of_nonneg_left ih.1⟩

theorem etr_neg_odd_nonneg (x : ℝ) (h0 : 0 ≤ x) (h1 : x ≤ 1) : ∀ k : ℕ, 0 ≤ etr (2 * k + 1) (-x) :=
  fun _ => (etr_neg_bounds x h0 h1 _).1

theorem etr_neg_nonneg (x : ℝ) (h0 : 0 ≤ x) (h1 : x ≤ 1) (j : ℕ) : 0 ≤ etr j (-x) :=
  (etr_neg_bounds x h0 h1 j).1

section loop
variable {N : Nat}

/-- the hypothesis `hgen` of `taylorLoop_sum`/`taylorStep_sum` for populations: the generator with the factor `dt/(k+1)`
turns term `k` of the exponential series into term `k+1` -/
theorem popGen_term (K : Fin N → Fin N → ℝ) (dt : ℝ) (v : Fin N → ℝ) (k : ℕ) (r : VecD ℝ N)
    (h : r.fn = ((k.factorial : ℝ)⁻¹ • (dt • Matrix.of K) ^ k) *ᵥ v) :
    (popGen K (dt / ((k + 1 : ℕ) : ℝ)) r).fn = (((k + 1).factorial : ℝ)⁻¹ • (dt • Matrix.of K) ^ (k + 1)) *ᵥ v := by
  rw [popGen, VecD.fn_tab, matVec_eq_mulVec, h, Matrix.mulVec_mulVec, ← taylor_term_succ, Matrix.smul_mulVec]
  rfl  -- the model's entrywise `fun i => c * (M *ᵥ v) i` is the scalar multiple `c • (M *ᵥ v)`

theorem popLoop_eq (K : Fin N → Fin N → ℝ) (dt : ℝ) (v : Fin N → ℝ) : ∀ (cnt l : ℕ) (r1 r2 : VecD ℝ N),
    r1.fn = ((dt ^ l / (l.factorial : ℝ)) • (Matrix.of K) ^ l) *ᵥ v →
    (taylorLoop (popGen K) popAdd dt (l + 1) cnt r1 r2).fn
      = r2.fn + ∑ k ∈ range cnt, ((dt ^ (l + 1 + k) / ((l + 1 + k).factorial : ℝ)) • (Matrix.of K) ^ (l + 1 + k)) *ᵥ v := by
  have e : ∀ k : ℕ, (dt ^ k / (k.factorial : ℝ)) • Matrix.of K ^ k = (k.factorial : ℝ)⁻¹ • (dt • Matrix.of K) ^ k :=
    fun k => by rw [smul_pow, smul_smul, div_eq_inv_mul]
  simp only [e]
  exact taylorLoop_sum (popGen K) popAdd dt VecD.fn (fun _ _ => VecD.fn_tab _) _ (popGen_term K dt v)

theorem popStep_eq (K : Fin N → Fin N → ℝ) (dt : ℝ) (L : ℕ) (p : VecD ℝ N) :
    (taylorStep (popGen K) popAdd dt L p).fn = (Etr L (dt • Matrix.of K)) *ᵥ p.fn := by
  rw [Etr, Matrix.sum_mulVec]
  exact taylorStep_sum (popGen K) popAdd dt VecD.fn (fun _ _ => VecD.fn_tab _) _ (popGen_term K dt p.fn) L p (by simp)

end loop

section positivity
variable {N : Nat}

theorem mulVec_nonneg (A : Matrix (Fin N) (Fin N) ℝ) (hA : ∀ i j, 0 ≤ A i j) (p : Fin N → ℝ) (hp : ∀ j, 0 ≤ p j) (i : Fin N) :
    0 ≤ (A *ᵥ p) i := by
  simp only [Matrix.mulVec, dotProduct]
  exact Finset.sum_nonneg fun j _ => mul_nonneg (hA i j) (hp j)

theorem pow_mulVec_nonneg (A : Matrix (Fin N) (Fin N) ℝ) (hA : ∀ i j, 0 ≤ A i j) : ∀ (m : ℕ) (p : Fin N → ℝ),
    (∀ j, 0 ≤ p j) → ∀ i, 0 ≤ ((A ^ m) *ᵥ p) i := by
  intro m
  induction m with
  | zero => intro p hp i; simpa using hp i
  | succ m ih =>
    intro p hp i
    rw [pow_succ, ← Matrix.mulVec_mulVec]
    exact ih _ (mulVec_nonneg A hA p hp) i

/-- **every expansion order keeps populations non-negative** for admissible steps: off-diagonal rates non-negative,
`−K_jj ≤ s`, `0 ≤ dt`, `dt·s ≤ 1` -/
theorem taylor_step_nonneg (K : Fin N → Fin N → ℝ) (dt s : ℝ) (hdt : 0 ≤ dt) (hs : 0 ≤ s) (hx : dt * s ≤ 1)
    (hoff : ∀ i j, i ≠ j → 0 ≤ K i j) (hdiag : ∀ j, 0 ≤ K j j + s) (L : ℕ) (p : VecD ℝ N) (hp : ∀ j, 0 ≤ p.fn j)
    (i : Fin N) : 0 ≤ (taylorStep (popGen K) popAdd dt L p).fn i := by
  set A : Matrix (Fin N) (Fin N) ℝ := dt • Matrix.of K + (dt * s) • (1 : Matrix (Fin N) (Fin N) ℝ) with hAdef
  have hA : ∀ a b, 0 ≤ A a b := by
    intro a b
    simp only [hAdef, Matrix.add_apply, Matrix.smul_apply, Matrix.of_apply, smul_eq_mul, Matrix.one_apply]
    split_ifs with hab
    · rw [hab, mul_one, ← mul_add]
      exact mul_nonneg hdt (hdiag b)
    · rw [mul_zero, add_zero]
      exact mul_nonneg hdt (hoff a b hab)
  have hsplit : dt • Matrix.of K = A + (-(dt * s)) • (1 : Matrix (Fin N) (Fin N) ℝ) := by
    rw [hAdef, neg_smul, add_neg_cancel_right]
  simp only [popStep_eq, hsplit, Etr_shift, Matrix.sum_mulVec, Finset.sum_apply, Matrix.smul_mulVec, Pi.smul_apply,
    smul_eq_mul]
  exact Finset.sum_nonneg fun m _ => mul_nonneg (mul_nonneg (by positivity) (etr_neg_nonneg _ (mul_nonneg hdt hs) hx _))
    (pow_mulVec_nonneg A hA m p.fn hp i)

/-- **every stored point of the propagation is non-negative**, under the hypotheses of `taylor_step_nonneg` -/
theorem populations_nonneg (K : Fin N → Fin N → ℝ) (dt s : ℝ) (hdt : 0 ≤ dt) (hs : 0 ≤ s) (hx : dt * s ≤ 1)
    (hoff : ∀ i j, i ≠ j → 0 ≤ K i j) (hdiag : ∀ j, 0 ≤ K j j + s) (L Nref nt : ℕ) (p0 : VecD ℝ N)
    (hp : ∀ j, 0 ≤ p0.fn j) : ∀ p ∈ popPropagate K dt L Nref nt p0, ∀ j, 0 ≤ p.fn j :=
  taylorTrajectory_inv (popGen K) popAdd dt (fun p => ∀ j, 0 ≤ p.fn j) L Nref
    (taylor_step_nonneg K dt s hdt hs hx hoff hdiag L) nt p0 hp

/-- the hypotheses are satisfiable by a genuine rate matrix (two states exchanging at rate 1, step 1, bound 1) -/
example : ∃ (K : Fin 2 → Fin 2 → ℝ) (dt s : ℝ), 0 ≤ dt ∧ 0 ≤ s ∧ dt * s ≤ 1 ∧ (∀ i j, i ≠ j → 0 ≤ K i j) ∧
    (∀ j, 0 ≤ K j j + s) ∧ (∀ j, ∑ i, K i j = 0) ∧ K 0 1 ≠ 0 :=
  ⟨fun i j => if i = j then -1 else 1, 1, 1, zero_le_one, zero_le_one, by norm_num, fun i j h => by simp [h],
    fun j => by simp, fun j => by fin_cases j <;> simp [Fin.sum_univ_two], by simp⟩

end positivity
end QV.C17
