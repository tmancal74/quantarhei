/-!
Import-free finite-dimensional algebra used by the executable models:
sums over `Fin n`, vectors/matrices/4-index tensors as functions, and
*tabulation* into `Vector`s (`VecD`, `MatD`, `TensD`).
-/
namespace QV

/-- `∑ i : Fin n, f i` as a left fold (bridge lemma `sumFin_eq_sum` on the Mathlib side) -/
def sumFin {α : Type} [Add α] [Zero α] (n : Nat) (f : Fin n → α) : α :=
  Fin.foldl n (fun acc i => acc + f i) 0

/-! Materialised values.  Iterated models keep their state in `Vector`s (strict
data), never in closures, so that running them costs polynomial time; `fn`
reads a materialised value back as a function and `fn_tab` says tabulation is
the identity. -/

abbrev VecD (α : Type) (n : Nat) := Vector α n
abbrev MatD (α : Type) (n m : Nat) := Vector (Vector α m) n
abbrev TensD (α : Type) (n : Nat) := Vector (Vector (Vector (Vector α n) n) n) n

def VecD.tab {α : Type} {n : Nat} (f : Fin n → α) : VecD α n := Vector.ofFn f
def VecD.fn {α : Type} {n : Nat} (v : VecD α n) : Fin n → α := fun i => v[i]
theorem VecD.fn_tab {α : Type} {n : Nat} (f : Fin n → α) : (VecD.tab f).fn = f := by
  funext i; simp [VecD.tab, VecD.fn]

def MatD.tab {α : Type} {n m : Nat} (f : Fin n → Fin m → α) : MatD α n m :=
  Vector.ofFn (fun i => Vector.ofFn (f i))
def MatD.fn {α : Type} {n m : Nat} (a : MatD α n m) : Fin n → Fin m → α := fun i j => a[i][j]
theorem MatD.fn_tab {α : Type} {n m : Nat} (f : Fin n → Fin m → α) : (MatD.tab f).fn = f := by
  funext i j; simp [MatD.tab, MatD.fn]

def TensD.tab {α : Type} {n : Nat} (f : Fin n → Fin n → Fin n → Fin n → α) : TensD α n :=
  Vector.ofFn (fun i => Vector.ofFn (fun j => Vector.ofFn (fun k => Vector.ofFn (f i j k))))
def TensD.fn {α : Type} {n : Nat} (a : TensD α n) : Fin n → Fin n → Fin n → Fin n → α :=
  fun i j k l => a[i][j][k][l]
theorem TensD.fn_tab {α : Type} {n : Nat} (f : Fin n → Fin n → Fin n → Fin n → α) :
    (TensD.tab f).fn = f := by
  funext i j k l; simp [TensD.tab, TensD.fn]

section
variable {α : Type} [Add α] [Mul α] [Zero α]

def matVec {n m : Nat} (A : Fin n → Fin m → α) (x : Fin m → α) : Fin n → α :=
  fun i => sumFin m (fun j => A i j * x j)

def matMul {n m k : Nat} (A : Fin n → Fin m → α) (B : Fin m → Fin k → α) : Fin n → Fin k → α :=
  fun i j => sumFin m (fun l => A i l * B l j)

/-- action of a 4-index tensor on a matrix: `(R ρ)_{ab} = Σ_{cd} R_{abcd} ρ_{cd}` -/
def tensApply {n : Nat} (R : Fin n → Fin n → Fin n → Fin n → α) (ρ : Fin n → Fin n → α) :
    Fin n → Fin n → α :=
  fun a b => sumFin n (fun c => sumFin n (fun d => R a b c d * ρ c d))

def trace {n : Nat} (A : Fin n → Fin n → α) : α := sumFin n (fun i => A i i)
end

/-- read a row-major list as a matrix (driver side) -/
def matOfArray {α : Type} [Inhabited α] (n m : Nat) (a : Array α) : Fin n → Fin m → α :=
  fun i j => a[i.val * m + j.val]!

def vecOfArray {α : Type} [Inhabited α] (n : Nat) (a : Array α) : Fin n → α :=
  fun i => a[i.val]!

def tensOfArray {α : Type} [Inhabited α] (n : Nat) (a : Array α) : Fin n → Fin n → Fin n → Fin n → α :=
  fun i j k l => a[((i.val * n + j.val) * n + k.val) * n + l.val]!

def listOfVec {α : Type} {n : Nat} (f : Fin n → α) : List α := (List.finRange n).map f

def listOfMat {α : Type} {n m : Nat} (f : Fin n → Fin m → α) : List α :=
  (List.finRange n).flatMap (fun i => (List.finRange m).map (f i))

def listOfTens {α : Type} {n : Nat} (f : Fin n → Fin n → Fin n → Fin n → α) : List α :=
  (List.finRange n).flatMap fun i => (List.finRange n).flatMap fun j =>
    (List.finRange n).flatMap fun k => (List.finRange n).map (f i j k)

/-- exact inverse of a rational matrix by Gauss–Jordan elimination (driver side only; `none` if singular) -/
def ratInv (n : Nat) (a : Array (Array Rat)) : Option (Array (Array Rat)) := Id.run do
  let mut m : Array (Array Rat) := Array.ofFn (n := n) fun i =>
    (a[i.val]!) ++ (Array.ofFn (n := n) fun j => if i.val = j.val then (1 : Rat) else 0)
  for c in [0:n] do
    -- pivot
    let mut p := c
    for r in [c:n] do
      if (m[p]!)[c]! == 0 ∧ (m[r]!)[c]! != 0 then p := r
    if (m[p]!)[c]! == 0 then return none
    let rowp := m[p]!
    let rowc := m[c]!
    m := (m.set! p rowc).set! c rowp
    let piv := (m[c]!)[c]!
    m := m.set! c ((m[c]!).map (· / piv))
    for r in [0:n] do
      if r != c then
        let f := (m[r]!)[c]!
        if f != 0 then
          let rc := m[c]!
          m := m.set! r (Array.ofFn (n := 2 * n) fun j => (m[r]!)[j.val]! - f * rc[j.val]!)
  return some (m.map (fun row => row.extract n (2 * n)))
end QV
