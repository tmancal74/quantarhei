import QV.Lemmas.TaylorRel
import Mathlib.Algebra.Algebra.Basic
import Mathlib.Tactic.Ring

/-! The short-exponential stepping, for every expansion order, number of steps and refinement: instances of the
simulation lemmas of `Lemmas/TaylorRel.lean`, and the loop as the partial sum of a series (`taylorLoop_sum`), the
exponential series when the generator multiplies in an algebra (`taylor_term_succ`).  `taylorSteps_add` belongs to
neither. -/
namespace QV

section
variable {X K M : Type} [Div K] [NatCast K] [AddMonoid M]
variable (gen : K → X → X) (add : X → X → X) (dt : K)
variable (φ : X → M) (hadd : ∀ a b, φ (add a b) = φ a + φ b) (hgen : ∀ c x, φ (gen c x) = 0)
include hadd hgen

/-- an additive functional that kills the generator carries the stepping to the stepping of the vanishing generator,
which stands still -/
theorem taylorStep_conserved (L : Nat) (x : X) : φ (taylorStep gen add dt L x) = φ x :=
  (taylorStep_rel gen add (fun _ _ => 0) (· + ·) dt (fun x m => φ x = m) (fun _ _ _ _ => hgen _ _)
    (fun a a' _ _ h h' => h ▸ h' ▸ hadd a a') L x (φ x) rfl).trans (taylorLoop_zero dt L 1 _ _)

theorem taylorTrajectory_conserved (L Nref : Nat) :
    ∀ nt x, ∀ y ∈ taylorTrajectory gen add dt L Nref nt x, φ y = φ x := fun nt x =>
  taylorTrajectory_inv gen add dt (φ · = φ x) L Nref
    (fun y hy => (taylorStep_conserved gen add dt φ hadd hgen L y).trans hy) nt x rfl
end

section
variable {X K : Type} [Div K] [NatCast K]
variable (gen : K → X → X) (add : X → X → X) (dt : K)

section
variable (J : X → X) (hadd : ∀ a b, J (add a b) = add (J a) (J b))
  (hgen : ∀ (l : Nat) x, J (gen (dt / (l : K)) x) = gen (dt / (l : K)) (J x))
include hadd hgen

/-- `hgen` is asked only for the time factors `dt/l` the loop uses: Hermitian conjugation commutes with the generator
only when they are real -/
theorem taylorStep_commute_dt (L : Nat) (x : X) : J (taylorStep gen add dt L x) = taylorStep gen add dt L (J x) :=
  taylorStep_rel gen add gen add dt (J · = ·) (fun l x _ h => h ▸ hgen l x)
    (fun a a' _ _ h h' => h ▸ h' ▸ hadd a a') L x (J x) rfl

theorem taylorTrajectory_fixed_dt (L Nref : Nat) :
    ∀ nt x, J x = x → ∀ y ∈ taylorTrajectory gen add dt L Nref nt x, J y = y :=
  taylorTrajectory_inv gen add dt (fun y => J y = y) L Nref
    fun y hy => (taylorStep_commute_dt gen add dt J hadd hgen L y).trans (congrArg _ hy)
end

theorem taylorTrajectory_fixed (J : X → X) (hadd : ∀ a b, J (add a b) = add (J a) (J b))
    (hgen : ∀ c x, J (gen c x) = gen c (J x)) (L Nref : Nat) :
    ∀ nt x, J x = x → ∀ y ∈ taylorTrajectory gen add dt L Nref nt x, J y = y :=
  taylorTrajectory_fixed_dt gen add dt J hadd (fun _ => hgen _) L Nref

theorem taylorSteps_add (L : Nat) : ∀ m n x,
    taylorSteps gen add dt L (m + n) x = taylorSteps gen add dt L n (taylorSteps gen add dt L m x)
  | 0, n, x => by rw [Nat.zero_add]; rfl
  | m + 1, n, x => by rw [Nat.add_right_comm]; exact taylorSteps_add L m n _
end

section
variable {X K M : Type} [Div K] [NatCast K] [AddCommMonoid M]
variable (gen : K → X → X) (add : X → X → X) (dt : K)
variable (φ : X → M) (hadd : ∀ a b, φ (add a b) = φ a + φ b) (t : ℕ → M)
  (hgen : ∀ (l : ℕ) r, φ r = t l → φ (gen (dt / ((l + 1 : ℕ) : K)) r) = t (l + 1))
include hadd hgen

/-- `φ` reads the states in an additive monoid, where the loop adds up the terms `t` of a series -/
theorem taylorLoop_sum : ∀ cnt l r1 r2, φ r1 = t l →
    φ (taylorLoop gen add dt (l + 1) cnt r1 r2) = φ r2 + ∑ k ∈ Finset.range cnt, t (l + 1 + k)
  | 0, _, _, _, _ => (add_zero _).symm
  | cnt + 1, l, r1, r2, h => by
    have hidx : ∀ k, l + 1 + 1 + k = l + 1 + (k + 1) := fun k => by omega
    rw [taylorLoop, taylorLoop_sum cnt (l + 1) _ _ (hgen l r1 h), hadd, hgen l r1 h, Finset.sum_range_succ', add_assoc,
      add_comm (t (l + 1))]
    simp only [hidx]

theorem taylorStep_sum (L : ℕ) (x : X) (hx : φ x = t 0) :
    φ (taylorStep gen add dt L x) = ∑ k ∈ Finset.range (L + 1), t k := by
  rw [Finset.sum_range_succ', ← hx, add_comm]
  exact (taylorLoop_sum gen add dt φ hadd t hgen L 0 x x hx).trans (by simp only [Nat.zero_add, Nat.add_comm 1])
end

theorem taylor_term_succ {𝕜 A : Type} [Field 𝕜] [Semiring A] [Algebra 𝕜 A] (a : A) (dt : 𝕜) (k : ℕ) :
    (dt / ((k + 1 : ℕ) : 𝕜)) • (a * ((k.factorial : 𝕜)⁻¹ • (dt • a) ^ k))
      = ((k + 1).factorial : 𝕜)⁻¹ • (dt • a) ^ (k + 1) := by
  rw [pow_succ', mul_smul_comm, smul_smul, smul_mul_assoc, smul_smul, Nat.factorial_succ, Nat.cast_mul]
  congr 1
  ring
end QV
