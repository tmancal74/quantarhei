import QV.Core.Tab
import Mathlib.Algebra.BigOperators.Fin
import Mathlib.Data.Matrix.Mul

/-! Bridge between the import-free finite sums and matrix operations of `QV.Core.Tab` and Mathlib's big operators and
matrices. -/
namespace QV

theorem sumFin_eq_sum {α : Type} [AddCommMonoid α] (n : Nat) (f : Fin n → α) :
    sumFin n f = ∑ i, f i := by
  unfold sumFin
  induction n with
  | zero => simp
  | succ n ih =>
    rw [Fin.foldl_succ_last, Fin.sum_univ_castSucc, ← ih]

attribute [simp] VecD.fn_tab MatD.fn_tab TensD.fn_tab

theorem matVec_eq_mulVec {α : Type} [NonUnitalNonAssocSemiring α] {n m : Nat}
    (A : Fin n → Fin m → α) (x : Fin m → α) : matVec A x = Matrix.mulVec (Matrix.of A) x :=
  funext fun _ => sumFin_eq_sum m _

theorem matMul_eq_mul {α : Type} [NonUnitalNonAssocSemiring α] {n m k : Nat}
    (A : Fin n → Fin m → α) (B : Fin m → Fin k → α) :
    matMul A B = fun i j => ∑ l, A i l * B l j :=
  funext fun _ => funext fun _ => sumFin_eq_sum m _

theorem tensApply_eq {α : Type} [NonUnitalNonAssocSemiring α] {n : Nat}
    (R : Fin n → Fin n → Fin n → Fin n → α) (ρ : Fin n → Fin n → α) :
    tensApply R ρ = fun a b => ∑ c, ∑ d, R a b c d * ρ c d := by
  funext a b; simp only [tensApply, sumFin_eq_sum]

theorem trace_eq {α : Type} [NonUnitalNonAssocSemiring α] {n : Nat} (A : Fin n → Fin n → α) :
    trace A = ∑ i, A i i := sumFin_eq_sum n _

/-! `Matrix.of` on both sides: rewriting with it (and its like for every operation built from `matMul`) pushes
`Matrix.of` to the leaves and leaves an equation of matrices; `Matrix.of.injective` makes a goal between functions one. -/

theorem of_matMul {α : Type} [NonUnitalNonAssocSemiring α] {n m k : Nat}
    (A : Fin n → Fin m → α) (B : Fin m → Fin k → α) : Matrix.of (matMul A B) = Matrix.of A * Matrix.of B :=
  matMul_eq_mul A B

/-- the inverse-pair and orthogonality hypotheses of the basis-change theorems as a matrix equation -/
theorem mul_eq_one_of_sum {α : Type} [NonAssocSemiring α] {n : Nat} {A B : Fin n → Fin n → α}
    (h : ∀ x y, ∑ a, A x a * B a y = if x = y then 1 else 0) : Matrix.of A * Matrix.of B = 1 :=
  Matrix.ext fun x y => (h x y).trans Matrix.one_apply.symm

theorem MatD.ext_of_fn {α : Type} {n m : Nat} {a b : MatD α n m} (h : a.fn = b.fn) : a = b :=
  Vector.ext fun i hi => Vector.ext fun j hj => congrFun (congrFun h ⟨i, hi⟩) ⟨j, hj⟩

theorem sum4_comm_congr {β ι κ : Type} [AddCommMonoid β] [Fintype ι] [Fintype κ] {F : ι → ι → κ → κ → β}
    {G : κ → κ → ι → ι → β} (h : ∀ c d x y, F c d x y = G x y c d) :
    ∑ c, ∑ d, ∑ x, ∑ y, F c d x y = ∑ x, ∑ y, ∑ c, ∑ d, G x y c d :=
  calc ∑ c, ∑ d, ∑ x, ∑ y, F c d x y
      = ∑ c, ∑ x, ∑ d, ∑ y, F c d x y := Finset.sum_congr rfl fun c _ => Finset.sum_comm
    _ = ∑ x, ∑ c, ∑ d, ∑ y, F c d x y := Finset.sum_comm
    _ = ∑ x, ∑ c, ∑ y, ∑ d, F c d x y :=
        Finset.sum_congr rfl fun x _ => Finset.sum_congr rfl fun c _ => Finset.sum_comm
    _ = ∑ x, ∑ y, ∑ c, ∑ d, F c d x y := Finset.sum_congr rfl fun x _ => Finset.sum_comm
    _ = ∑ x, ∑ y, ∑ c, ∑ d, G x y c d := by simp only [h]

/-- the double delta sum -/
theorem sum_sum_ite_and {β ι κ : Type} [AddCommMonoid β] [Fintype ι] [Fintype κ] [DecidableEq ι] [DecidableEq κ]
    (a : ι) (b : κ) (f : ι → κ → β) : ∑ p, ∑ q, (if a = p ∧ b = q then f p q else 0) = f a b := by
  simp only [ite_and, Finset.sum_ite_irrel, Finset.sum_const_zero, Finset.sum_ite_eq, Finset.mem_univ, if_true]

theorem sum_sum_ite_and' {β ι κ : Type} [AddCommMonoid β] [Fintype ι] [Fintype κ] [DecidableEq ι] [DecidableEq κ]
    (a : ι) (b : κ) (f : ι → κ → β) : ∑ p, ∑ q, (if p = a ∧ q = b then f p q else 0) = f a b := by
  simp only [eq_comm (b := a), eq_comm (b := b), sum_sum_ite_and]

/-- orthonormal columns (`ι` need not be `κ`) keep scalar products -/
theorem orth_dot {α ι κ : Type} [CommSemiring α] [Fintype ι] [Fintype κ] [DecidableEq κ] (Q : ι → κ → α)
    (hQ : ∀ k l, ∑ a, Q a k * Q a l = if k = l then 1 else 0) (u v : κ → α) :
    ∑ a, (∑ k, Q a k * u k) * (∑ l, Q a l * v l) = ∑ k, u k * v k := by
  -- bring the sum over `a` inside: it is `∑ a, Q a k * Q a l`, the Kronecker delta
  simp only [Finset.sum_mul_sum, mul_mul_mul_comm (Q _ _)]
  rw [Finset.sum_comm]
  refine Finset.sum_congr rfl fun k _ => ?_
  rw [Finset.sum_comm]
  simp only [← Finset.sum_mul, hQ, ite_mul, one_mul, zero_mul, Finset.sum_ite_eq, Finset.mem_univ, if_true]

end QV
