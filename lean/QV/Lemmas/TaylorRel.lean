import QV.Model.Taylor
import Mathlib.Algebra.Group.Basic
import Mathlib.Data.List.Forall2

/-! Simulation lemmas for the short-exponential stepping: two steppings whose generators and additions respect a
relation `Rel` stay related, for every expansion order, number of steps and refinement.  Invariants
(`taylorTrajectory_inv`), conserved functionals and commuting maps (`Lemmas/Taylor.lean`) and the reduction of the
hierarchy to the closed system (`Props/C16Dyn`) are instances; conservation is simulation by the vanishing generator,
which stands still (`taylorTrajectory_zero`). -/
namespace QV

theorem forall₂_left {X Y : Type} {Rel : X → Y → Prop} {xs : List X} {ys : List Y} (h : List.Forall₂ Rel xs ys) :
    ∀ x ∈ xs, ∃ y ∈ ys, Rel x y := by
  induction h with
  | nil => exact fun _ hx => absurd hx List.not_mem_nil
  | cons hab _ ih =>
    exact List.forall_mem_cons.mpr ⟨⟨_, List.mem_cons_self, hab⟩,
      fun x hx => (ih x hx).imp fun _ hy => ⟨List.mem_cons_of_mem _ hy.1, hy.2⟩⟩

section
variable {X Y K : Type} [Div K] [NatCast K]
variable (genX : K → X → X) (addX : X → X → X) (genY : K → Y → Y) (addY : Y → Y → Y) (dt : K)
variable (Rel : X → Y → Prop)

section
variable (hgen : ∀ (l : Nat) x y, Rel x y → Rel (genX (dt / (l : K)) x) (genY (dt / (l : K)) y))
  (hadd : ∀ a a' b b', Rel a b → Rel a' b' → Rel (addX a a') (addY b b'))
include hgen hadd

theorem taylorLoop_rel : ∀ cnt l r1 r2 s1 s2, Rel r1 s1 → Rel r2 s2 →
    Rel (taylorLoop genX addX dt l cnt r1 r2) (taylorLoop genY addY dt l cnt s1 s2)
  | 0, _, _, _, _, _, _, h2 => h2
  | cnt + 1, l, _, _, _, _, h1, h2 =>
    taylorLoop_rel cnt (l + 1) _ _ _ _ (hgen l _ _ h1) (hadd _ _ _ _ h2 (hgen l _ _ h1))

theorem taylorStep_rel (L : Nat) (x : X) (y : Y) (h : Rel x y) :
    Rel (taylorStep genX addX dt L x) (taylorStep genY addY dt L y) :=
  taylorLoop_rel genX addX genY addY dt Rel hgen hadd L 1 x x y y h h
end

section
variable (L : Nat) (hstep : ∀ x y, Rel x y → Rel (taylorStep genX addX dt L x) (taylorStep genY addY dt L y))
include hstep

theorem taylorSteps_lift : ∀ n x y, Rel x y →
    Rel (taylorSteps genX addX dt L n x) (taylorSteps genY addY dt L n y)
  | 0, _, _, h => h
  | n + 1, _, _, h => taylorSteps_lift n _ _ (hstep _ _ h)

theorem taylorTrajectory_lift (Nref : Nat) : ∀ nt x y, Rel x y →
    List.Forall₂ Rel (taylorTrajectory genX addX dt L Nref nt x) (taylorTrajectory genY addY dt L Nref nt y)
  | 0, _, _, _ => .nil
  | nt + 1, _, _, h =>
    .cons h (taylorTrajectory_lift Nref nt _ _ (taylorSteps_lift genX addX genY addY dt Rel L hstep Nref _ _ h))
end

theorem taylorTrajectory_rel
    (hgen : ∀ (l : Nat) x y, Rel x y → Rel (genX (dt / (l : K)) x) (genY (dt / (l : K)) y))
    (hadd : ∀ a a' b b', Rel a b → Rel a' b' → Rel (addX a a') (addY b b')) (L Nref : Nat) :
    ∀ nt x y, Rel x y →
      List.Forall₂ Rel (taylorTrajectory genX addX dt L Nref nt x) (taylorTrajectory genY addY dt L Nref nt y) :=
  taylorTrajectory_lift genX addX genY addY dt Rel L (taylorStep_rel genX addX genY addY dt Rel hgen hadd L) Nref

/-- an invariant is a relation that ignores its second argument: the lift against the trajectory itself -/
theorem taylorTrajectory_inv (P : X → Prop) (L Nref : Nat)
    (hstep : ∀ x, P x → P (taylorStep genX addX dt L x)) (nt : Nat) (x : X) (hx : P x) :
    ∀ y ∈ taylorTrajectory genX addX dt L Nref nt x, P y :=
  (List.forall₂_same (Rₐ := fun x _ => P x)).mp
    (taylorTrajectory_lift genX addX genX addX dt (fun x _ => P x) L (fun x _ => hstep x) Nref nt x x hx)
end

section
variable {K M : Type} [Div K] [NatCast K] [AddMonoid M] (dt : K)

theorem taylorLoop_zero : ∀ cnt l (s1 s2 : M),
    taylorLoop (fun (_ : K) (_ : M) => (0 : M)) (· + ·) dt l cnt s1 s2 = s2
  | 0, _, _, _ => rfl
  | cnt + 1, l, _, s2 => (taylorLoop_zero cnt (l + 1) 0 (s2 + 0)).trans (add_zero s2)

theorem taylorTrajectory_zero (L Nref : Nat) : ∀ nt (s : M),
    ∀ y ∈ taylorTrajectory (fun (_ : K) (_ : M) => (0 : M)) (· + ·) dt L Nref nt s, y = s := fun nt s =>
  taylorTrajectory_inv _ _ dt (· = s) L Nref (fun x hx => (taylorLoop_zero dt L 1 x x).trans hx) nt s rfl
end

end QV
