import QV.Model.Prop
import QV.Lemmas.Bridge
import Mathlib.LinearAlgebra.Matrix.Trace

/-! The operations of `QV.Model.Prop` in Mathlib's terms; the entries of the materialised matrices its generators build. -/
namespace QV

theorem trace_eq_matrix_trace {α : Type} [NonUnitalNonAssocSemiring α] {n : Nat} (A : Fin n → Fin n → α) :
    trace A = Matrix.trace (Matrix.of A) := trace_eq A

section
variable {α : Type} [NonUnitalNonAssocSemiring α] {n : Nat}

theorem tensApply_zero (ρ : Fin n → Fin n → α) : tensApply (fun _ _ _ _ => 0) ρ = fun _ _ => 0 := by
  simp only [tensApply_eq, zero_mul, Finset.sum_const_zero]

theorem tensApply_add (R S : Fin n → Fin n → Fin n → Fin n → α) (ρ : Fin n → Fin n → α) :
    tensApply (fun a b c d => R a b c d + S a b c d) ρ = fun a b => tensApply R ρ a b + tensApply S ρ a b := by
  simp only [tensApply_eq, add_mul, Finset.sum_add_distrib]

/-- `(AB)† = B†A†`, entry by entry -/
theorem star_matMul [StarRing α] {m k : Nat} (A : Fin n → Fin m → α) (B : Fin m → Fin k → α) (i : Fin n) (j : Fin k) :
    star (matMul A B i j) = matMul (fun a b => star (B b a)) (fun a b => star (A b a)) j i := by
  simp only [matMul_eq_mul, star_sum, star_mul]
end
end QV

namespace QV.Prop
open QV.C01

variable {α : Type} {n : Nat}

theorem madd_fn [Add α] (a b : MatD α n n) : (madd a b).fn = fun i j => a.fn i j + b.fn i j := MatD.fn_tab _

theorem dephase_fn [Mul α] (E : Mat α n) (ρ : MatD α n n) : (dephase E ρ).fn = fun a b => ρ.fn a b * E a b :=
  MatD.fn_tab _

section
variable [Add α] [Sub α] [Mul α] [Neg α] [Zero α]

theorem genTensor_fn (ii : α) (H : Mat α n) (R : Tens α n) (c : α) (ρ : MatD α n n) :
    (genTensor ii H R c ρ).fn = fun a b => -((ii * c) * comm H ρ.fn a b) + c * tensApply R ρ.fn a b :=
  MatD.fn_tab _

theorem genH_fn (ii : α) (H : Mat α n) (c : α) (ρ : MatD α n n) :
    (genH ii H c ρ).fn = fun a b => -((ii * c) * comm H ρ.fn a b) := MatD.fn_tab _
end

theorem of_comm [NonUnitalNonAssocRing α] (H ρ : Mat α n) :
    Matrix.of (comm H ρ) = Matrix.of H * Matrix.of ρ - Matrix.of ρ * Matrix.of H := by
  rw [← of_matMul, ← of_matMul]; rfl

end QV.Prop
