import QV.Lemmas.Taylor
import Mathlib.Analysis.SpecialFunctions.Exponential

/-!
# The truncation bound of the short-exponential expansion

In a complete normed `ℚ`-algebra (e.g. matrices, or linear maps on matrices = superoperators, with any submultiplicative
norm with `‖1‖ = 1`): `‖(T_L X)ᵐ − exp(m•X)‖ ≤ m · e^{(m−1)‖X‖} · (e^{‖X‖} − T_L ‖X‖)`, from the remainder of one step
and its accumulation over `m`.  `T_L X = ∑_{k ≤ L} X^k / k!` is exactly what the code's loop computes (`taylorStep_alg`).

The scalars are `ℚ` because Mathlib's `NormedSpace.exp` is the sum of the series with the coefficients `(k!)⁻¹ : ℚ`: a
normed `ℚ`-algebra is the weakest setting in which it is available, and every normed algebra over `ℝ` or `ℂ` is one
(`NormedAlgebra.restrictScalars`).  The step `dt : ℚ` is what the loop divides by `l`; a step that is not rational is
put into the generator (`𝓛 := t • 𝓛`, `dt := 1`).
-/
namespace QV
open NormedSpace Finset

section loop
variable {𝔸 : Type} [NormedRing 𝔸] [NormedAlgebra ℚ 𝔸]

/-- the order-`L` Taylor polynomial of the exponential (`n = L+1` terms) -/
noncomputable def taylorPoly (n : ℕ) (x : 𝔸) : 𝔸 := ∑ m ∈ range n, ((m.factorial : ℚ)⁻¹) • x ^ m

/-- generator of the propagation loop in an algebra: `c * GEN(z) = c • (𝓛 * z)`; for density matrices
`𝔸` is the algebra of superoperators acting on itself (columns = matrix units), for populations the
algebra of matrices -/
def algGen (𝓛 : 𝔸) (c : ℚ) (z : 𝔸) : 𝔸 := c • (𝓛 * z)

theorem taylorStep_alg (𝓛 : 𝔸) (dt : ℚ) (L : ℕ) (y : 𝔸) :
    taylorStep (algGen 𝓛) (· + ·) dt L y = taylorPoly (L + 1) (dt • 𝓛) * y := by
  rw [taylorPoly, Finset.sum_mul]
  -- `φ = id`, term `k` = `((dt 𝓛)^k / k!) * y`, stepped by `taylor_term_succ`
  exact taylorStep_sum (algGen 𝓛) (· + ·) dt id (fun _ _ => rfl) (fun k => ((k.factorial : ℚ)⁻¹ • (dt • 𝓛) ^ k) * y)
    (fun k r (h : r = _) => by rw [h, id, algGen, ← mul_assoc, ← smul_mul_assoc, taylor_term_succ]) L y (by simp)

theorem taylorSteps_alg (𝓛 : 𝔸) (dt : ℚ) (L : ℕ) : ∀ (m : ℕ) (y : 𝔸),
    taylorSteps (algGen 𝓛) (· + ·) dt L m y = taylorPoly (L + 1) (dt • 𝓛) ^ m * y
  | 0, y => by rw [pow_zero, one_mul, taylorSteps]
  | m + 1, y => by rw [taylorSteps, taylorSteps_alg 𝓛 dt L m, taylorStep_alg, ← mul_assoc, ← pow_succ]

end loop

section bound
variable {𝔸 : Type} [NormedRing 𝔸] [NormOneClass 𝔸]

/-- **accumulation over `m` steps** (no commutativity needed) -/
theorem norm_pow_sub_pow_le (A B : 𝔸) (M : ℝ) (hA : ‖A‖ ≤ M) (hB : ‖B‖ ≤ M) (m : ℕ) :
    ‖A ^ m - B ^ m‖ ≤ m * M ^ (m - 1) * ‖A - B‖ := by
  have hM : 0 ≤ M := le_trans (norm_nonneg A) hA  -- found by the `positivity` below
  induction m with
  | zero => simp
  | succ k ih =>
    have hAk : ‖A ^ k‖ ≤ M ^ k := le_trans (norm_pow_le A k) (pow_le_pow_left₀ (norm_nonneg A) hA k)
    calc ‖A ^ (k + 1) - B ^ (k + 1)‖ = ‖A ^ k * (A - B) + (A ^ k - B ^ k) * B‖ := by
          rw [pow_succ, pow_succ, mul_sub, sub_mul, sub_add_sub_cancel]
      _ ≤ ‖A ^ k‖ * ‖A - B‖ + ‖A ^ k - B ^ k‖ * ‖B‖ :=
        le_trans (norm_add_le _ _) (add_le_add (norm_mul_le _ _) (norm_mul_le _ _))
      _ ≤ M ^ k * ‖A - B‖ + (k * M ^ (k - 1) * ‖A - B‖) * M :=
        add_le_add (mul_le_mul_of_nonneg_right hAk (norm_nonneg _)) (mul_le_mul ih hB (norm_nonneg _) (by positivity))
      _ = ((k + 1 : ℕ) : ℝ) * M ^ (k + 1 - 1) * ‖A - B‖ := by
        cases k with  -- `M ^ (k - 1)`: truncated subtraction at `k = 0`
        | zero => simp
        | succ j => simp only [Nat.add_sub_cancel, Nat.cast_add]; ring

variable [NormedAlgebra ℚ 𝔸]

theorem norm_term_le (x : 𝔸) (m : ℕ) : ‖((m.factorial : ℚ)⁻¹) • x ^ m‖ ≤ ‖x‖ ^ m / m.factorial := by
  have hq : ‖((m.factorial : ℕ) : ℚ)‖ = (m.factorial : ℝ) := by
    rw [← Rat.norm_cast_real]; simp
  rw [norm_smul, norm_inv, hq, div_eq_inv_mul]
  exact mul_le_mul_of_nonneg_left (norm_pow_le x m) (by positivity)

theorem real_exp_series (r : ℝ) : HasSum (fun m : ℕ => r ^ m / m.factorial) (Real.exp r) :=
  Real.exp_eq_exp_ℝ ▸ NormedSpace.expSeries_div_hasSum_exp (𝔸 := ℝ) r

theorem norm_taylorPoly_le (x : 𝔸) (n : ℕ) : ‖taylorPoly n x‖ ≤ Real.exp ‖x‖ :=
  (norm_sum_le _ _).trans <| (Finset.sum_le_sum fun m _ => norm_term_le x m).trans <|
    sum_le_hasSum _ (fun _ _ => by positivity) (real_exp_series ‖x‖)

variable [CompleteSpace 𝔸]

/-- **one step**: the remainder of the Taylor polynomial is dominated by the scalar remainder at `‖x‖` (both series
shifted by `n` terms, compared term by term) -/
theorem norm_exp_sub_taylor_le (x : 𝔸) (n : ℕ) :
    ‖exp x - taylorPoly n x‖ ≤ Real.exp ‖x‖ - ∑ m ∈ range n, ‖x‖ ^ m / m.factorial :=
  ((hasSum_nat_add_iff' n).mpr (exp_series_hasSum_exp' (𝕂 := ℚ) x)).norm_le_of_bounded
    ((hasSum_nat_add_iff' n).mpr (real_exp_series ‖x‖)) fun m => norm_term_le x (m + n)

theorem norm_exp_le (x : 𝔸) : ‖exp x‖ ≤ Real.exp ‖x‖ :=
  (exp_series_hasSum_exp' (𝕂 := ℚ) x).norm_le_of_bounded (real_exp_series ‖x‖) (norm_term_le x)

/-- **the truncation bound**: `m` steps of the order-`L` expansion (`n = L+1` terms) against the exact
exponential over the same time -/
theorem trunc_bound (X : 𝔸) (n m : ℕ) :
    ‖taylorPoly n X ^ m - exp ((m : ℕ) • X)‖ ≤
      m * Real.exp ‖X‖ ^ (m - 1) * (Real.exp ‖X‖ - ∑ k ∈ range n, ‖X‖ ^ k / k.factorial) := by
  rw [exp_nsmul]
  calc ‖taylorPoly n X ^ m - exp X ^ m‖
      ≤ m * Real.exp ‖X‖ ^ (m - 1) * ‖taylorPoly n X - exp X‖ :=
        norm_pow_sub_pow_le _ _ _ (norm_taylorPoly_le X n) (norm_exp_le X) m
    _ ≤ _ := by
        apply mul_le_mul_of_nonneg_left _ (by positivity)
        rw [norm_sub_rev]
        exact norm_exp_sub_taylor_le X n

/-- **C02/C08/C17, accuracy clause**: after `m` elementary steps of order `L` the propagated object is
within the truncation bound of the exact exponential applied to the same initial object -/
theorem steps_within_truncation_bound (𝓛 : 𝔸) (dt : ℚ) (L m : ℕ) (y : 𝔸) :
    ‖taylorSteps (algGen 𝓛) (· + ·) dt L m y - exp ((m : ℕ) • (dt • 𝓛)) * y‖ ≤
      (m * Real.exp ‖dt • 𝓛‖ ^ (m - 1) *
        (Real.exp ‖dt • 𝓛‖ - ∑ k ∈ range (L + 1), ‖dt • 𝓛‖ ^ k / k.factorial)) * ‖y‖ := by
  rw [taylorSteps_alg, ← sub_mul]
  exact le_trans (norm_mul_le _ _) (mul_le_mul_of_nonneg_right (trunc_bound _ _ _) (norm_nonneg _))

/-- refining the step: two expansions of the same generator over the same total time differ by at most
the sum of their truncation bounds -/
theorem refinement_within_bounds (𝓛 : 𝔸) (dt : ℚ) (L m N : ℕ) (hN : 0 < N) (y : 𝔸) :
    ‖taylorSteps (algGen 𝓛) (· + ·) dt L m y - taylorSteps (algGen 𝓛) (· + ·) (dt / N) L (m * N) y‖ ≤
      ((m * Real.exp ‖dt • 𝓛‖ ^ (m - 1) *
          (Real.exp ‖dt • 𝓛‖ - ∑ k ∈ range (L + 1), ‖dt • 𝓛‖ ^ k / k.factorial))
        + ((m * N : ℕ) * Real.exp ‖(dt / N) • 𝓛‖ ^ (m * N - 1) *
          (Real.exp ‖(dt / N) • 𝓛‖ - ∑ k ∈ range (L + 1), ‖(dt / N) • 𝓛‖ ^ k / k.factorial))) * ‖y‖ := by
  have e : ((m * N : ℕ) • ((dt / N) • 𝓛)) = (m : ℕ) • (dt • 𝓛) := by
    rw [← Nat.cast_smul_eq_nsmul ℚ, ← Nat.cast_smul_eq_nsmul ℚ, smul_smul, smul_smul]
    push_cast; field_simp
  have h2 := steps_within_truncation_bound 𝓛 (dt / N) L (m * N) y
  rw [e, norm_sub_rev] at h2
  rw [add_mul]
  exact (norm_sub_le_norm_sub_add_norm_sub _ (exp ((m : ℕ) • (dt • 𝓛)) * y) _).trans
    (add_le_add (steps_within_truncation_bound 𝓛 dt L m y) h2)
end bound

end QV
