import QV.Core.Num
import QV.Core.Tab
import QV.Lemmas.Bridge
import QV.Lemmas.Taylor
import QV.Props.C01
import QV.Props.C01Basis
import QV.Props.C02
import QV.Props.C02Basis
import QV.Props.C02Deph
import QV.Props.C02Energy
import QV.Props.C03
import QV.Props.C03Enum
import QV.Props.C04
import QV.Props.C04Labels
import QV.Props.C04Tensor
import QV.Props.C05
import QV.Props.C05Composite
import QV.Props.C05HandSwitch
import QV.Props.C06
import QV.Props.C07
import QV.Props.C07Basis
import QV.Props.C07Covariant
import QV.Props.C07Limits
import QV.Props.C08
import QV.Props.C08Apply
import QV.Props.C08Basis
import QV.Props.C08Dephasing
import QV.Props.C09
import QV.Props.C09Analytic
import QV.Props.C09Fourier
import QV.Props.C10
import QV.Props.C10Complex
import QV.Props.C11
import QV.Props.C11Spectrum
import QV.Props.C12
import QV.Props.C12Average
import QV.Props.C12Design
import QV.Props.C12DesignT8
import QV.Props.C12Multilinear
import QV.Props.C12Pref
import QV.Props.C12Weyl
import QV.Props.C12Widths
import QV.Props.C13
import QV.Props.C13Inverse
import QV.Props.C13Linear
import QV.Props.C14
import QV.Props.C14Units
import QV.Props.C15
import QV.Props.C16
import QV.Props.C16Dyn
import QV.Props.C16Herm
import QV.Props.C17
import QV.Props.C17Bound
import QV.Props.C17Linear
import QV.Props.C17Positive
import QV.Props.C18
import QV.Props.C19
import QV.Props.C20
import QV.Props.C20Regions
